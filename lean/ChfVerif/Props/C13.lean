import ChfVerif.Lemmas.Router
import ChfVerif.Gen.Routes
/-
  C13 — with OAuth2 required, every route of every enabled service rejects unauthenticated requests,
  and no route exists outside the protected groups, for any list of enabled services.

  `C13` is about the router model for an arbitrary (unbounded) service list; the facts that tie it to
  the code are regenerated on every run into Gen/Routes.lean and discharged by `decide`:
  the syntactic shape of each `case` of newRouter, and the route tables gin actually built for all 16
  ordered lists of distinct service names (with the handler-chain length gin reported).
-/
namespace Chf.Props.C13
open Chf.Router

/-- every route of the router carries the auth middleware in front of its handler -/
theorem protected_chain (facts : List CaseFact) (h : ∀ f ∈ facts, f.useBefore = true ∧ f.authInUse = true)
    (routesOf : String → List (String × String)) (svcs : List String) :
    ∀ r ∈ newRouter facts routesOf svcs, r.chain = [.auth, .handler] := by
  induction svcs with
  | nil => exact fun _ hr => nomatch hr
  | cons name rest ih =>
    intro r hr
    rcases List.mem_append.1 hr with hr | hr
    · cases hc : findCase facts name with
      | none => simp [hc] at hr
      | some f =>
        simp only [hc, caseRoutes, List.mem_map] at hr
        obtain ⟨mp, _, rfl⟩ := hr
        obtain ⟨h1, h2⟩ := h f (List.mem_of_find?_eq_some hc)
        simp [h1, h2]
    · exact ih r hr

/-- C13: for any list of enabled services (any length, order, repetitions, unknown names) and any route
    of the resulting router, a request whose token does not verify is answered 401 and the API function
    does not run. -/
theorem C13 (facts : List CaseFact) (h : ∀ f ∈ facts, f.useBefore = true ∧ f.authInUse = true)
    (routesOf : String → List (String × String)) (svcs : List String) :
    ∀ r ∈ newRouter facts routesOf svcs, serveChain false r.chain = ⟨401, false⟩ := by
  intro r hr
  rw [protected_chain facts h routesOf svcs r hr]
  rfl

/-- … while an authorised request reaches the handler (the middleware is not a blanket refusal) -/
theorem C13_authorised_passes (facts : List CaseFact) (h : ∀ f ∈ facts, f.useBefore = true ∧ f.authInUse = true)
    (routesOf : String → List (String × String)) (svcs : List String) :
    ∀ r ∈ newRouter facts routesOf svcs, serveChain true r.chain = ⟨200, true⟩ := by
  intro r hr
  rw [protected_chain facts h routesOf svcs r hr]
  rfl

/-! ### the regenerated facts -/

/-- every `case` of newRouter installs the authorization middleware before it registers its routes -/
theorem C13_cases_protected : ∀ f ∈ Chf.Gen.caseFacts, f.useBefore = true ∧ f.authInUse = true := by decide

/-- newRouter registers nothing directly on the engine -/
theorem C13_no_bare_route : Chf.Gen.bareRegistrations = 0 := by decide

/-- all three service names have a case -/
theorem C13_all_services_have_case :
    ∀ n ∈ ["nchf-convergedcharging", "nchf-offlineonlycharging", "nchf-spendinglimitcontrol"],
      (findCase Chf.Gen.caseFacts n).isSome = true := by decide +kernel

def routeProtected (enabled : List String) (r : RouteInfo) : Bool :=
  r.chain == Chf.Gen.baseChain + 2 &&
  Chf.Gen.caseFacts.any fun f => enabled.contains f.name && f.pfx == r.group

/-- for each of the 16 ordered lists of distinct service names, every route gin actually registered lies
    under the prefix of an enabled, protected group and has exactly one handler (the auth middleware) between
    the engine's global middleware and the API function -/
theorem C13_runtime_routes_protected :
    ∀ e ∈ Chf.Gen.runtimeRoutes, ∀ r ∈ e.2, routeProtected e.1 r = true := by decide +kernel

/-- the instantiated statement for the code at hand -/
theorem C13_here (routesOf : String → List (String × String)) (svcs : List String) :
    ∀ r ∈ newRouter Chf.Gen.caseFacts routesOf svcs, serveChain false r.chain = ⟨401, false⟩ :=
  C13 Chf.Gen.caseFacts C13_cases_protected routesOf svcs

/-! ### the middleware and the decision, path by path (regenerated: `checkPaths`, `authPaths`) -/

/-- every control-flow path of `RouterAuthorizationCheck.Check` that a request without a verifiable token can
    take writes 401 and aborts the chain; a path that returns early without `Abort` (or that calls `Next`
    first, or that contains a statement the extractor cannot read) breaks this -/
theorem C13_check_paths_safe : ∀ p ∈ Chf.Gen.checkPaths, pathSafe p = true := by decide

/-- `CHFContext.AuthorizationCheck` consults nothing but `OAuth2Required` and `oauth.VerifyOAuth` applied to
    the request's own header: no cache, no clock, no earlier request -/
theorem C13_auth_paths_pure : ∀ p ∈ Chf.Gen.authPaths, p.pure = true := by decide

/-- … and it decides every request (some path applies whether or not OAuth2 is required) -/
theorem C13_auth_paths_total :
    ∀ required ∈ [true, false], Chf.Gen.authPaths.any (·.taken (fun _ => false) required) = true := by decide

/-- a rejecting path makes gin answer 401 without running the API function -/
theorem C13_mw_rejects (p : List Ev) (hs : pathSafe p = true) (hf : feasible false p = true) :
    serveVia p [.auth, .handler] = ⟨401, false⟩ := by
  have hr : rejects p = true := by
    simp only [pathSafe, hf, Bool.not_true, Bool.false_or] at hs
    exact hs
  simp only [rejects, Bool.and_eq_true, beq_iff_eq, Bool.not_eq_true'] at hr
  obtain ⟨⟨⟨h1, h2⟩, h3⟩, _⟩ := hr
  simp [serveVia, h1, h2, h3]

theorem all_congr_mem {α : Type} {l : List α} {f g : α → Bool} (h : ∀ x ∈ l, f x = g x) : l.all f = l.all g :=
  Chf.Router.all_congr_mem h

theorem pure_no_unread (p : APath) (hp : p.pure = true) :
    p.evs.any AEv.isUnread = false :=
  APath.pure_no_unread hp

theorem pure_taken_indep (p : APath) (hp : p.pure = true) (a₁ a₂ : Adversary) (required : Bool) :
    p.taken a₁ required = p.taken a₂ required := by
  rw [APath.pure_taken hp, APath.pure_taken hp]

theorem pure_accepts_indep (p : APath) (hp : p.pure = true) (a₁ a₂ : Adversary) (verifies : Bool) :
    p.accepts a₁ verifies = p.accepts a₂ verifies := by
  rw [APath.pure_accepts hp, APath.pure_accepts hp]

/-- **Statelessness.**  When every path of the decision function is pure, the decision for a request is a
    function of (OAuth2Required, does the request's own header verify) alone: two adversaries — two histories
    of earlier requests, two clock readings, two cache contents — cannot make it differ. -/
theorem C13_stateless (paths : List APath) (h : ∀ p ∈ paths, p.pure = true) (a₁ a₂ : Adversary)
    (required verifies : Bool) :
    decision paths a₁ required verifies = decision paths a₂ required verifies := by
  rw [decision_pure h, decision_pure h]

/-- the same, spelled out over histories: whatever was presented (and accepted) before, the decision on the
    next request is the decision on that request presented first -/
theorem C13_history_independent (paths : List APath) (h : ∀ p ∈ paths, p.pure = true)
    (world : List Bool → Adversary) (hist : List Bool) (required verifies : Bool) :
    decision paths (world hist) required verifies = decision paths (world []) required verifies :=
  C13_stateless paths h _ _ required verifies

/-- with OAuth2 required, a header that does not verify is never accepted, under any adversary -/
theorem C13_unverified_rejected (paths : List APath) (h : ∀ p ∈ paths, p.pure = true) (adv : Adversary) :
    decision paths adv true false ≠ some true := by
  -- over pure paths only a path that returns nil accepts an unverified header, and no such path is taken when OAuth2
  -- is required
  rw [decision_pure h]
  intro hd
  simp only [Option.map_eq_some_iff, Bool.or_false, beq_iff_eq] at hd
  obtain ⟨p, hfind, hnil⟩ := hd
  have htaken : ∀ e ∈ p.evs, e ≠ .notRequired true := by simpa using List.find?_some hfind
  exact htaken _ (APath.pure_nil (h p (List.mem_of_find?_eq_some hfind)) hnil) rfl

/-- **C13, per request.**  For the code at hand: any list of enabled services, any route of the router, any
    history / clock / request-context state (the adversaries of both functions): a request whose bearer token
    does not verify is answered 401 and the API function does not run — on whichever path of the middleware the
    request travels. -/
theorem C13_request (routesOf : String → List (String × String)) (svcs : List String)
    (adv : Adversary) (ok : Bool) (hd : decision Chf.Gen.authPaths adv true false = some ok) :
    ∀ r ∈ newRouter Chf.Gen.caseFacts routesOf svcs, ∀ p ∈ Chf.Gen.checkPaths, feasible ok p = true →
      serveVia p r.chain = ⟨401, false⟩ := by
  intro r hr p hp hf
  have hok : ok = false := by
    cases ok with
    | false => rfl
    | true => exact absurd hd (C13_unverified_rejected _ C13_auth_paths_pure adv)
  subst hok
  rw [protected_chain _ C13_cases_protected routesOf svcs r hr]
  exact C13_mw_rejects p (C13_check_paths_safe p hp) hf

/-! ### both hypotheses are needed -/

/-- a decision function with a remembered-verification shortcut is not pure, and some history makes it accept a
    header that does not verify -/
theorem C13_cache_witness :
    let cached : List APath := [⟨[.notRequired true], .nil⟩,
                                ⟨[.notRequired false, .cond "fresh entry for this key" true], .nil⟩,
                                ⟨[.notRequired false, .cond "fresh entry for this key" false], .verify⟩]
    (cached.all (·.pure) = false) ∧ decision cached (fun _ => true) true false = some true := by decide

/-- a middleware path that returns before the decision without aborting lets the API function run -/
theorem C13_early_return_witness :
    let p : List Ev := [.cond "c.Request.Context().Err() != nil" true]
    pathSafe p = false ∧ feasible false p = true ∧ serveVia p [.auth, .handler] = ⟨200, true⟩ := by decide

/-- … and so does one that answers 401 but forgets `Abort` -/
theorem C13_no_abort_witness :
    let p : List Ev := [.authCall, .errNonNil true, .respond 401]
    pathSafe p = false ∧ serveVia p [.auth, .handler] = ⟨200, true⟩ := by decide

end Chf.Props.C13
