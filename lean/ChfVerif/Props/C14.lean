import ChfVerif.Lemmas.CdrFile
import ChfVerif.Model.CodecState
import ChfVerif.Gen.AsnGlobals
/-
  C14 — the CDR file codec round-trips every well-formed file structure.

  `File.WF` is the property's "well-formed": every field within its TS 32.297 width,
  length/count fields equal to the real lengths, an extension octet only where the release
  identifier is 7.  No bound on the number of records or on any length below 2^16.
-/
namespace Chf.Props.C14
open Chf Chf.CdrFile

/-- Decoding(Encoding(f)) = f for every well-formed f. -/
theorem C14 (f : File) (hw : f.WF) : decodeFile (encodeFile f) = some f :=
  (congrArg decodeFile (List.append_nil _)).symm.trans (decodeFile_encodeFile f hw [])

/-- In particular decoding a written well-formed file never panics. -/
theorem C14_no_panic (f : File) (hw : f.WF) : decodeFile (encodeFile f) ≠ none := by
  rw [C14 f hw]; simp

/-- encoding is injective on well-formed structures (consequence of the round trip) -/
theorem C14_injective (f g : File) (hf : f.WF) (hg : g.WF) (h : encodeFile f = encodeFile g) : f = g := by
  have := C14 f hf
  rw [h, C14 g hg] at this
  exact (Option.some.inj this).symm

/-! ### call after call, goroutine by goroutine

`Encoding` and `Decoding` are methods of a value; what could make the file written now depend on a file written before (or on
one being written by another goroutine) is a package-level variable of `cdr/cdrFile` — a recycled buffer, a pool, a cached
header.  `Gen.cdrFileGlobals` is the regenerated list of these variables with what the source does to them outside `init`
(the same extractor as for `cdr/asn`); `Model/CodecState.lean` turns "every one of them is frozen" into history and schedule
independence of any procedure that respects the list.  (The stream side: files written by 16 goroutines at once, and a file
written after a write that failed.) -/

open Chf.CodecState in
theorem C14_codec_globals_frozen : allFrozen Gen.cdrFileGlobals = true := by decide

open Chf.CodecState in
/-- any procedure over the package-level store that respects the regenerated facts and, from the initial store, writes and
    reads back like the model brings every well-formed file back after ANY history of earlier calls (well-formed or not,
    successful or failed) -/
theorem C14_history {V : Type} (impl : Store V → File → Option File × Store V)
    (hr : Respects Gen.cdrFileGlobals impl) (g : Store V) (hcorr : ∀ f, (impl g f).1 = decodeFile (encodeFile f))
    (hist : List File) (f : File) (hw : f.WF) :
    (impl (after impl g hist) f).1 = some f := by
  rw [history_independent C14_codec_globals_frozen hr g hist, hcorr]
  exact C14 f hw

open Chf.CodecState in
/-- goroutines: whatever the scheduler does, every writer ends where it ends when it runs alone, and the package-level
    store is untouched -/
theorem C14_schedule {V L : Type} (micro : Micro V L) (hr : RespectsMicro Gen.cdrFileGlobals micro) (g : Store V)
    (sched : List Nat) (ls : Nat → L) :
    (runSched micro g ls sched).2 = g ∧
    ∀ k, (runSched micro g ls sched).1 k = runAlone micro g (ls k) (sched.count k) :=
  schedule_independent C14_codec_globals_frozen hr g sched ls

/-- non-vacuity: a file with only the *low* release identifier at 7, a filter, an extension and a
    record with release identifier 7 is well-formed (this is the shape the unrepaired decoder got wrong). -/
def sample : File :=
  { hdr := { fileLength := 68, headerLength := 58, highRel := 3, highVer := 1, lowRel := 7, lowVer := 31,
             openTs := ⟨12, 31, 23, 59, 1, 5, 30⟩, lastTs := ⟨1, 1, 0, 0, 0, 0, 0⟩,
             numCdrs := 1, fileSeq := 9, closure := 128,
             ip := [0,1,2,3,4,5,6,7,8,9,10,11,12,13,14,15,16,17,18,19], lost := 255,
             lenFilter := 2, filter := [170, 187], lenExt := 3, ext := [1, 2, 3],
             highExt := 0, lowExt := 77 },
    cdrs := [{ hdr := { cdrLength := 5, rel := 7, ver := 2, fmt := 1, ts := 19, relExt := 200 },
               bytes := [48, 3, 128, 1, 9] }] }

example : sample.WF := by
  unfold File.WF FileHeader.WF TimeStamp.WF Cdr.WF CdrHeader.WF Bytes.ok
  decide

example : decodeFile (encodeFile sample) = some sample := by decide +kernel

end Chf.Props.C14
