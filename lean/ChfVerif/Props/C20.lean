import ChfVerif.Model.Config
import ChfVerif.Gen.Config
/-
  C20 — validated configurations start without crashing; invalid ones are rejected.
  The `valid:` tags the model of `validate` relies on are regenerated from the compiled types on every
  run (Gen/Config.lean) and compared with the expectations below by `decide`.
-/
namespace Chf.Props.C20
open Chf.Config

/-- every section the runtime reads unconditionally is guaranteed present by validation -/
theorem C20_sound (c : Cfg) (h : validate c = true) : startsOK c = true := by
  simp only [validate, sbiValid, rfValid, abmfValid, Bool.and_eq_true] at h
  simp [startsOK, h]

/-- an unknown service name is rejected -/
theorem C20_rejects_unknown_service (c : Cfg) (h : c.services ≠ .ok) : validate c = false := by
  simp only [validate, beq_eq_false_iff_ne.2 h, Bool.and_false, Bool.false_and]

/-- an SBI scheme other than http / https (or none) is rejected -/
theorem C20_rejects_bad_scheme (c : Cfg) (h : c.scheme = .other ∨ c.scheme = .absent) : validate c = false := by
  have : sbiValid c = false := by rcases h with h | h <;> simp [sbiValid, h]
  simp only [validate, this, Bool.and_false, Bool.false_and]

/-- a missing mandatory section is rejected -/
theorem C20_rejects_missing_section (c : Cfg)
    (h : c.info = false ∨ c.configuration = false ∨ c.logger = false ∨ c.sbi = false ∨ c.mongodb = false ∨
         c.rf = false ∨ c.abmf = false ∨ c.cgf = false ∨ c.rfTls = false ∨ c.abmfTls = false ∨
         c.serviceList = false) : validate c = false := by
  rcases h with h | h | h | h | h | h | h | h | h | h | h <;>
    simp only [validate, rfValid, abmfValid, h, Bool.and_false, Bool.false_and]

/-- https needs the SBI TLS block -/
theorem C20_https_needs_tls (c : Cfg) (h : c.scheme = .https) (ht : c.sbiTls = false) : validate c = false := by
  simp [validate, sbiValid, h, ht]

/-- non-vacuity: the complete baseline validates (and therefore starts) -/
def baseline (s : Scheme) : Cfg :=
  ⟨true, true, true, true, true, true, true, true, true, true, true, true, true, true, true, true, true, true, true, true, s, .ok,
   .tcp, .tcp, false⟩
example : validate (baseline .http) = true ∧ validate (baseline .https) = true := by decide

/-- the protocol named in a Diameter section excuses nothing: without the section's tls block the configuration is
    rejected whatever the two protocols are (the servers and clients read the block unconditionally) -/
theorem C20_protocol_does_not_excuse_tls (c : Cfg) (p q : Proto) :
    validate { c with rfProto := p, abmfProto := q, rfTls := false } = false ∧
    validate { c with rfProto := p, abmfProto := q, abmfTls := false } = false := by
  constructor <;> simp [validate, rfValid, abmfValid]

/-- a Diameter section without `protocol` is rejected -/
theorem C20_rejects_missing_protocol (c : Cfg) (h : c.rfProto = .absent ∨ c.abmfProto = .absent) :
    validate c = false := by
  rcases h with h | h <;> simp [validate, rfValid, abmfValid, h]

/-- an enabled CGF finds its passive port range: the block is guaranteed by validation, enabled or not -/
theorem C20_cgf_port_range (c : Cfg) (h : validate c = true) : c.cgf = true ∧ c.cgfPortRange = true := by
  simp only [validate, Bool.and_eq_true] at h
  exact ⟨h.1.2, h.2⟩

/-- non-vacuity: other protocols and an enabled CGF validate and start when the blocks are there -/
example : validate { baseline .https with rfProto := .sctp, abmfProto := .other, cgfEnable := true } = true ∧
          startsOK { baseline .https with rfProto := .sctp, abmfProto := .other, cgfEnable := true } = true := by decide
/-- … and a start-up that reads a block validation does not guarantee is what `startsOK` excludes -/
example : startsOK { baseline .http with cgfEnable := true, cgfPortRange := false } = false ∧
          startsOK { baseline .http with rfProto := .sctp, rfTls := false } = false := by decide

/-! ### the tags as compiled (regenerated) -/

def tagOf (field : String) : Option String :=
  (Chf.Gen.validTags.find? (fun t => t.1 == field)).map (fun t => t.2.2.2)

/-- the tags `validate` models: mandatory sections `required`, both Diameter TLS blocks `required`,
    SBI TLS `optional` (made conditional on https by Sbi.validate) -/
theorem C20_tags_as_modelled :
    tagOf "Config.Info" = some "required" ∧ tagOf "Config.Configuration" = some "required" ∧
    tagOf "Config.Logger" = some "required" ∧ tagOf "Info.Version" = some "required,in(1.0.3)" ∧
    tagOf "Configuration.ChfName" = some "required, type(string)" ∧
    tagOf "Configuration.Sbi" = some "required" ∧ tagOf "Configuration.ServiceNameList" = some "required" ∧
    tagOf "Configuration.NrfUri" = some "required, url" ∧ tagOf "Configuration.Mongodb" = some "required" ∧
    tagOf "Configuration.RfDiameter" = some "required" ∧ tagOf "Configuration.AbmfDiameter" = some "required" ∧
    tagOf "Configuration.Cgf" = some "required" ∧ tagOf "Diameter.Tls" = some "required" ∧
    tagOf "Sbi.Tls" = some "optional" ∧ tagOf "Sbi.Scheme" = some "required,scheme" ∧
    tagOf "Sbi.RegisterIPv4" = some "required,host" ∧ tagOf "Sbi.BindingIPv4" = some "required,host" ∧
    tagOf "Sbi.Port" = some "required,port" ∧
    tagOf "Tls.Pem" = some "type(string),minstringlength(1),required" ∧
    tagOf "Tls.Key" = some "type(string),minstringlength(1),required" := by decide +kernel

def kindOf (field : String) : Option String :=
  (Chf.Gen.validTags.find? (fun t => t.1 == field)).map (fun t => t.2.1)

/-- the tags and kinds behind the value-dependent parts of the model: `protocol` is required and nothing else hangs on
    it; the CGF's passive port range is a struct *value* (reading its members cannot fail) whose two members are
    required, so the block is mandatory although tagged optional -/
theorem C20_tags_values :
    tagOf "Diameter.Protocol" = some "required" ∧
    tagOf "Diameter.HostIPv4" = some "required,host" ∧ tagOf "Diameter.Port" = some "required,port" ∧
    kindOf "Diameter.Tls" = some "ptr" ∧
    kindOf "Cgf.PassiveTransferPortRange" = some "struct" ∧
    tagOf "Cgf.PassiveTransferPortRange" = some "optional" ∧
    tagOf "<anonymous>.Start" = some "required,port" ∧ tagOf "<anonymous>.End" = some "required,port" ∧
    tagOf "Cgf.Enable" = some "type(bool)" ∧ tagOf "Cgf.Tls" = some "optional" := by decide +kernel

end Chf.Props.C20
