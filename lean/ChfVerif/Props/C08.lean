import ChfVerif.Model.Rating
import ChfVerif.Spec.RatingSpec
import ChfVerif.Lemmas.Abmf
import ChfVerif.Lemmas.Rating
/-
  C08 — the rating server prices exactly and agrees with the CHF on the unit cost.

  `cost` below is the unit cost the server derives from the stored string
  (`serverUnitCost (buildTariff s)`), whatever that string is.
-/
namespace Chf.Props.C08
open Chf Chf.Rating

theorem handle_known {st : List Tariff} {c : SUR} {s : Bytes}
    (hf : findCost st (subscriberId c) c.rg = some s) :
    handleSUR st c = .answer c.sess (buildTariff s).1 (buildTariff s).2
      (rate (serverUnitCost (buildTariff s)) c).1 (rate (serverUnitCost (buildTariff s)) c).2 :=
  handleSUR_known hf

/-- Every request for a known subscriber and rating group is answered, for every stored tariff text:
    the model has no crashing or silent outcome (the real server is tied to it by the `rf` stream). -/
theorem C08_answers {st : List Tariff} {c : SUR} {s : Bytes}
    (hf : findCost st (subscriberId c) c.rg = some s) : handleSUR st c ≠ .noAnswer := by
  rw [handle_known hf]; simp

/-- the answer echoes the Session-Id -/
theorem C08_echo {st : List Tariff} {c : SUR} {s : Bytes}
    (hf : findCost st (subscriberId c) c.rg = some s) :
    ∃ d e a p, handleSUR st c = .answer c.sess d e a p := by
  rw [handle_known hf]; exact ⟨_, _, _, _, rfl⟩

/-- Debit mode: price = consumed units × unit cost (whenever the exact price fits the Unsigned32 AVP),
    allowed units = 0. -/
theorem C08_debit (cost : Nat) (c : SUR) (hs : c.reqSub = 2) (hfit : c.consumed * cost < 4294967296) :
    rate cost c = (0, c.consumed * cost) :=
  rate_debit cost hs hfit

/-- Reserve mode with a positive unit cost: allowed = ⌊quota / cost⌋, price = allowed × cost ≤ quota. -/
theorem C08_reserve (cost : Nat) (c : SUR) (hs : c.reqSub = 1) (hc : 0 < cost) (hq : c.quota < 4294967296) :
    rate cost c = (c.quota / cost, (c.quota / cost) * cost) ∧ (c.quota / cost) * cost ≤ c.quota := by
  have hle : (c.quota / cost) * cost ≤ c.quota := Nat.div_mul_le_self c.quota cost
  exact ⟨by rw [rate_reserve cost hs, Nat.mod_eq_of_lt (by omega)], hle⟩

/-- … and the remainder left unpriced is smaller than one unit -/
theorem C08_reserve_tight (cost : Nat) (c : SUR) (hc : 0 < cost) :
    c.quota < (c.quota / cost + 1) * cost := by
  have := Nat.div_add_mod c.quota cost
  have hm := Nat.mod_lt c.quota hc
  rw [Nat.add_mul, Nat.one_mul, Nat.mul_comm]
  omega

/-- Reserve mode with a unit cost of 0 (zero or unparsable stored text): nothing allowed, price 0. -/
theorem C08_reserve_zero_cost (c : SUR) (hs : c.reqSub = 1) : rate 0 c = (0, 0) := by
  rw [rate_reserve 0 hs, Nat.div_zero]

/-- Other request sub-types (AoC, release, unknown) are answered with 0 / 0. -/
theorem C08_other (cost : Nat) (c : SUR) (h1 : c.reqSub ≠ 1) (h2 : c.reqSub ≠ 2) : rate cost c = (0, 0) :=
  rate_other cost h1 h2

/-- The tariff in the answer decodes at the CHF (`getUnitCost`) to the unit cost the server applied —
    for every stored string. -/
theorem C08_agree (s : Bytes) :
    chfUnitCost (buildTariff s).1 (buildTariff s).2 = serverUnitCost (buildTariff s) := rfl

/-- For a stored plain decimal integer below 2^32 the unit cost is that integer. -/
theorem C08_integer_cost (s : Bytes) (n : Nat) (hd : dotPos s = none)
    (hp : Chf.Abmf.parseInt64 s = some (n : Int)) (hn : n < 4294967296) :
    serverUnitCost (buildTariff s) = n := by
  unfold serverUnitCost buildTariff
  simp only [hd, hp, Option.getD_some]
  have h1 : u32 (n : Int) = n := by unfold u32; omega
  have h2 : pow10u32 0 = 1 := by decide
  rw [h1, h2, Nat.mul_one, Nat.mod_eq_of_lt hn]

/-! ### Non-vacuity / worked values -/
example : buildTariff [50] = (2, 0) := by decide                     -- "2"
example : serverUnitCost (buildTariff [50]) = 2 := by decide
example : buildTariff [49, 46, 53] = (15, 1) := by decide            -- "1.5" ↦ digits 15, exponent 1
example : serverUnitCost (buildTariff [48]) = 0 := by decide         -- "0"
example : serverUnitCost (buildTariff [97, 98, 99]) = 0 := by decide -- "abc"
example : rate 3 { sess := [], subType := 1, subData := [], rg := 1, reqSub := 1, consumed := 0, quota := 100 }
    = (33, 99) := by decide

theorem dotPos_none_of_plain (s : Bytes) (h : s.all Chf.Abmf.isDigit = true) : dotPos s = none := by
  induction s with
  | nil => rfl
  | cons b r ih =>
    simp only [List.all_cons, Bool.and_eq_true] at h
    unfold dotPos
    have hb : b ≠ 46 := by
      intro hb; subst hb; simp [Chf.Abmf.isDigit] at h
    simp [hb, ih h.2]

/-- The model satisfies the exchange predicate the check evaluates on implementation traces. -/
theorem C08_model_holds (st : List Tariff) (c : SUR) :
    holds (findCost st (subscriberId c) c.rg) c (handleSUR st c) = true := by
  unfold holds
  cases hf : findCost st (subscriberId c) c.rg with
  | none => simp [handleSUR_unknown hf]
  | some s =>
    rw [handle_known hf]
    simp only [beq_self_eq_true, Bool.true_and]
    rw [C08_agree]
    rw [Bool.and_eq_true]
    constructor
    · cases hp : Chf.Abmf.parseInt64 s with
      | none => rfl
      | some n =>
        simp only
        by_cases hpl : (isPlainNat s && decide (n < 4294967296)) = true
        · simp only [hpl, if_true, decide_eq_true_eq]
          simp only [Bool.and_eq_true, decide_eq_true_eq, isPlainNat] at hpl
          obtain ⟨⟨_, hall⟩, hlt⟩ := hpl
          -- a minus sign is not a digit
          have hn0 : 0 ≤ n := Int.not_lt.1 fun hneg => by
            obtain ⟨r, rfl⟩ := Chf.Abmf.parseInt64_neg hp hneg
            simp [Chf.Abmf.isDigit] at hall
          obtain ⟨m, rfl⟩ := Int.eq_ofNat_of_zero_le hn0
          rw [C08_integer_cost s m (dotPos_none_of_plain s hall) hp (by omega)]
        · simp [hpl]
    · by_cases h2 : c.reqSub = 2
      · simp only [h2, if_true]
        by_cases hfit : c.consumed * serverUnitCost (buildTariff s) < 4294967296
        · simp [hfit, C08_debit _ c h2 hfit]
        · simp [hfit]
      · by_cases h1 : c.reqSub = 1
        · simp only [h1, if_true, show (1 : Nat) ≠ 2 by decide, if_false]
          by_cases hq : c.quota < 4294967296
          · simp only [hq, if_true]
            by_cases hc0 : serverUnitCost (buildTariff s) = 0
            · simp [hc0, C08_reserve_zero_cost c h1]
            · have hpos : 0 < serverUnitCost (buildTariff s) := by omega
              obtain ⟨e, hle⟩ := C08_reserve _ c h1 hpos hq
              simp [hc0, e, hle]
          · simp [hq]
        · simp [h1, h2]

/-- the unit cost the CHF decodes is the exact value of the tariff modulo 2^32, for every non-negative Value-Digits
    (up to the whole int64 range) and every Exponent up to 18 — not an approximation of it: a decoding that forms the
    product in floating point agrees below 2^53 only -/
theorem C08_unit_cost_exact_mod (d : Int) (e : Nat) (hd : 0 ≤ d) (he : e ≤ 18) :
    Rating.chfUnitCost d (e : Int) = (d.toNat * 10 ^ e) % 4294967296 := by
  obtain ⟨n, rfl⟩ := Int.eq_ofNat_of_zero_le hd
  unfold Rating.chfUnitCost Rating.u32 Rating.pow10u32
  have h1 : ¬ ((e : Int) < 0) := by omega
  have h2 : (e : Int) ≤ 18 := by omega
  simp only [h1, h2, if_false, if_true, Int.toNat_natCast]
  have h3 : ((n : Int) % 4294967296).toNat = n % 4294967296 := by omega
  rw [h3, ← Nat.mul_mod]

end Chf.Props.C08
