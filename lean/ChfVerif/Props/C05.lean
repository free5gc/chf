import ChfVerif.Lemmas.BerInt
import ChfVerif.Lemmas.BerRoundTrip
import ChfVerif.Lemmas.BerStructRT
import ChfVerif.Lemmas.BerSafe
import ChfVerif.Lemmas.BerEncode
import ChfVerif.Gen.Schema
import ChfVerif.Gen.AsnGlobals
import ChfVerif.Spec.C05Domain
/-
  C05 — decode(encode(v)) = v.

  Full statement (kept visible; `RoundTrip` below): for every type description, parameters and canonical
  value, if `marshal` returns octets then `unmarshal` of those octets into the same type with the same
  parameters returns that value.

  What is proved here, for all inputs:
  * `C05`: the full law, by recursion on what makes the value canonical (`rt_val`, Lemmas/BerStructRT.lean; no bound on
    nesting, lengths or the number of members / elements): for every type in `rtTy` — SEQUENCE, SEQUENCE OF, CHOICE whose alternatives are
    tagged with distinct numbers, Value/List wrappers, pointers, every primitive; members with a context tag or
    a universal tag of their own, OPTIONAL members nil-able and not confusable with a later member — every
    parameter set in `rtParams` and every canonical value (`Canon`: what the decoder produces, e.g. absent
    OPTIONAL members are nil, the unselected alternatives of a CHOICE hold zero values), if `marshal` returns
    octets then `unmarshal` returns the value.  `C05_schema`: all 195 regenerated schema types are in `rtTy`
    (decide +kernel), among them the CHF's own record `CHFRecord`.  SET types and EXPLICIT tags on non-primitive
    members are outside `rtTy` / `rtParams` — the schema uses neither.
  * for primitives additionally every tagging incl. EXPLICIT (C05_integer … C05_null), also in a Value wrapper
    (C05_wrapped_*): each says of one constructor of `Canon` what `canon_prim_rt` says of every canonical primitive (by
    `prim_roundtrip`, Lemmas/BerRoundTrip.lean); and the header parser on its own (C05_header).
  For what the theorem leaves out, `RoundTrip` is decided per run by the correspondence (model =
  implementation on every generated round trip) and the DeepEqual oracle.
-/
namespace Chf.Props.C05
open Chf Chf.Ber

/-- the full law, as a proposition about the model -/
def RoundTrip (t : Ty) (p : Params) (v : Val) : Prop :=
  ∀ b, marshal t p v = .ok b → unmarshal t p b = .ok v

/-- INTEGER / ENUMERATED contents: every int64 survives intBytes → parseSigned, any sign and width -/
theorem C05_partial_integer (i : Int) (h : -9223372036854775808 ≤ i ∧ i ≤ 9223372036854775807) :
    parseSigned (intBytes i) = .ok i := parseSigned_intBytes i h

/-- storing the decoded integer back into a field of its own width does not change it -/
theorem C05_partial_int_width (w : Nat) (i : Int) (hw : w = 32 ∨ w = 64)
    (h : -(2 : Int) ^ (w - 1) ≤ i ∧ i < (2 : Int) ^ (w - 1)) : truncInt w i = i := by
  rcases hw with rfl | rfl
  · exact (truncInt_iff (by decide) (by decide) i).mpr h
  · exact truncInt_of_ge (Nat.le_refl 64) i

/-- BIT STRING contents: the unused-bits octet followed by the octets decodes to the same bit length -/
theorem C05_partial_bits (bs : Bytes) (n : Nat) (hn : n ≤ 8 * bs.length) (hn' : 8 * bs.length < n + 8) :
    parseBitString (((8 - n % 8) % 8) :: bs) = .ok (.bits bs n) :=
  parseBitString_unused bs n hn hn'

/-- BOOLEAN: the encoder writes FF / 00 and the decoder maps non-zero / zero back -/
theorem C05_partial_bool (x : Bool) : (decide ((if x then 255 else 0 : Nat) ≠ 0)) = x := by
  cases x <;> decide

/-- unsupported constructs are errors in both directions, never a wrong value or a crash -/
theorem C05_oid_marshal (p : Params) (v : Val) : marshal .oid p v = .err := marshal_oid
theorem C05_no_panic_decode (t : Ty) (p : Params) (b : Bytes) : unmarshal t p b ≠ .panic :=
  unmarshal_no_panic t p b
theorem C05_no_panic_encode (t : Ty) (p : Params) (v : Val) (h : optNilable t = true) : marshal t p v ≠ .panic :=
  marshal_no_panic.1 t p v h

/-- non-vacuity of the content lemmas at boundary values -/
example : parseSigned (intBytes (-9223372036854775808)) = .ok (-9223372036854775808) :=
  C05_partial_integer _ (by decide)
example : parseBitString (((8 - 16 % 8) % 8) :: [170, 85]) = .ok (.bits [170, 85] 16) :=
  C05_partial_bits _ _ (by decide) (by decide)

/-! ### the full round trip for every primitive type, with any tagging

  `marshal` of a primitive is `finish p false <universal tag> <contents>` (`marshal_prim`); `prim_roundtrip` of
  Lemmas/BerRoundTrip.lean shows that `unmarshal` — through parseTagAndLength (short and long tag numbers, short
  and long lengths), the tag check, EXPLICIT unwrapping — reads the value back.  Tag numbers below 2^63 (the
  decoder accumulates them in 64 bits and gives up after 10 octets) and contents shorter than 2^63 octets. -/

/-- INTEGER of either Go width, every value of that width, untagged / IMPLICIT / EXPLICIT with any tag number -/
theorem C05_integer (w : Nat) (hw : w = 32 ∨ w = 64) (p : Params) (i : Int)
    (h : -(2 : Int) ^ (w - 1) ≤ i ∧ i < (2 : Int) ^ (w - 1))
    (hn : ∀ n, p.tagNumber = some n → n < 9223372036854775808) : RoundTrip (.int w) p (.int i) := fun _ hm =>
  (canon_prim_rt rfl (.int (width_int64 hw h) (C05_partial_int_width w i hw h)) rfl nofun (int_fits p i hn) hm).1

theorem C05_enumerated (p : Params) (i : Int) (hi : -9223372036854775808 ≤ i ∧ i ≤ 9223372036854775807)
    (hn : ∀ n, p.tagNumber = some n → n < 9223372036854775808) : RoundTrip .enum p (.int i) := fun _ hm =>
  (canon_prim_rt rfl (.enum hi) rfl nofun (int_fits p i hn) hm).1

theorem C05_boolean (p : Params) (x : Bool) (hn : ∀ n, p.tagNumber = some n → n < 9223372036854775808) :
    RoundTrip .bool p (.bool x) := fun _ hm =>
  (canon_prim_rt rfl .bool rfl nofun ⟨hn, by simp⟩ hm).1

theorem C05_octet_string (p : Params) (bs : Bytes) (hn : ∀ n, p.tagNumber = some n → n < 9223372036854775808)
    (hlen : bs.length + 44 < 9223372036854775808) : RoundTrip .octets p (.bytes bs) := fun _ hm =>
  (canon_prim_rt rfl .octets rfl nofun ⟨hn, hlen⟩ hm).1

/-- character strings of every kind (the universal tag comes from the utf8/ia5/graphic parameter or the Go type) -/
theorem C05_string (d : Nat) (p : Params) (bs : Bytes) (hn : ∀ n, p.tagNumber = some n → n < 9223372036854775808)
    (hd : stringTagOf p d < 9223372036854775808) (hlen : bs.length + 44 < 9223372036854775808) :
    RoundTrip (.str d) p (.str bs) := fun _ hm =>
  (canon_prim_rt rfl .str rfl (fun _ e => Ty.str.inj e ▸ hd) ⟨hn, hlen⟩ hm).1

/-- BIT STRING of every bit length whose octets are exactly the ones the length needs -/
theorem C05_bit_string (p : Params) (bs : Bytes) (n : Nat) (hn : ∀ k, p.tagNumber = some k → k < 9223372036854775808)
    (hlen : bs.length + 45 < 9223372036854775808) (h1 : n ≤ 8 * bs.length) (h2 : 8 * bs.length < n + 8) :
    RoundTrip .bits p (.bits bs n) := fun _ hm =>
  (canon_prim_rt rfl (.bits h1 h2) rfl nofun ⟨hn, by simpa using hlen⟩ hm).1

theorem C05_null (p : Params) (hn : ∀ n, p.tagNumber = some n → n < 9223372036854775808) :
    RoundTrip .null p (.null true) := fun _ hm =>
  (canon_prim_rt rfl .null rfl nofun ⟨hn, by simp⟩ hm).1

/-- pointers are transparent: a present pointer round-trips iff what it points to does -/
theorem C05_pointer (t : Ty) (p : Params) (v : Val) (hv : v ≠ .nil) (h : RoundTrip t p v) :
    RoundTrip (.ptr t) p v := fun b hm =>
  unmarshal_ptr.trans (h b ((marshal_ptr hv).symm.trans hm))

/-- the header on its own: parseTagAndLength reads back what appendTagAndLen wrote, for every class, every tag
    number below 2^63 and every length below 2^63, whatever follows -/
theorem C05_header (cls : Nat) (c : Bool) (tag len : Nat) (rest : Bytes)
    (hcls : cls < 4) (htag : tag < 9223372036854775808) (hlen : len < 9223372036854775808)
    (hfit : len ≤ (Chf.Ber.header cls c tag len ++ rest).length) :
    Chf.Ber.parseTagAndLength (Chf.Ber.header cls c tag len ++ rest) =
      .ok ⟨cls, c, tag, len, (Chf.Ber.header cls c tag len).length⟩ :=
  Chf.Ber.parse_header cls c tag len rest htag hlen hfit

/-- non-vacuity: an EXPLICIT [40] INTEGER -129 round-trips by the theorem -/
example : RoundTrip (.int 64) ⟨false, some 40, true, false, false, 0⟩ (.int (-129)) :=
  C05_integer 64 (Or.inr rfl) _ _ (by decide) (by intro n h; cases h; decide)

/-! ### Value-wrapper structs (most of the 195 schema types are a struct with one `Value` member)

  A wrapper is transparent in both directions, so it round-trips whenever the wrapped primitive does. -/

theorem untagged_ok (p : Params) : ∀ n, (untagged p).tagNumber = some n → n < 9223372036854775808 := by
  intro n h; simp [untagged] at h

theorem C05_wrapped_integer (w : Nat) (hw : w = 32 ∨ w = 64) (p : Params) (i : Int)
    (h : -(2 : Int) ^ (w - 1) ≤ i ∧ i < (2 : Int) ^ (w - 1))
    (hn : ∀ n, p.tagNumber = some n → n < 9223372036854775808) : RoundTrip (.wrap (.int w)) p (.int i) := fun _ hm =>
  (canon_prim_rt rfl (.int (width_int64 hw h) (C05_partial_int_width w i hw h)) rfl nofun (int_fits p i hn)
    (marshal_wrap.symm.trans hm)).2

theorem C05_wrapped_enumerated (p : Params) (i : Int) (hi : -9223372036854775808 ≤ i ∧ i ≤ 9223372036854775807)
    (hn : ∀ n, p.tagNumber = some n → n < 9223372036854775808) : RoundTrip (.wrap .enum) p (.int i) := fun _ hm =>
  (canon_prim_rt rfl (.enum hi) rfl nofun (int_fits p i hn) (marshal_wrap.symm.trans hm)).2

theorem C05_wrapped_octet_string (p : Params) (bs : Bytes) (hn : ∀ n, p.tagNumber = some n → n < 9223372036854775808)
    (hlen : bs.length + 44 < 9223372036854775808) : RoundTrip (.wrap .octets) p (.bytes bs) := fun _ hm =>
  (canon_prim_rt rfl .octets rfl nofun ⟨hn, hlen⟩ (marshal_wrap.symm.trans hm)).2

theorem C05_wrapped_string (d : Nat) (p : Params) (bs : Bytes) (hn : ∀ n, p.tagNumber = some n → n < 9223372036854775808)
    (hd : stringTagOf p d < 9223372036854775808) (hlen : bs.length + 44 < 9223372036854775808) :
    RoundTrip (.wrap (.str d)) p (.str bs) := fun _ hm =>
  (canon_prim_rt rfl .str rfl (fun _ e => Ty.str.inj e ▸ hd) ⟨hn, hlen⟩ (marshal_wrap.symm.trans hm)).2

/-! ### the structural law -/

/-- C05: decode(encode v) = v, for arbitrarily nested SEQUENCE / SEQUENCE OF / CHOICE / wrapper / pointer types -/
theorem C05 (t : Ty) (p : Params) (v : Val) (ht : rtTy t = true) (hp : rtParams p = true) (hv : Canon t v)
    (b : Bytes) (hm : marshal t p v = .ok b) (hl : b.length < 4611686018427387904) :
    unmarshal t p b = .ok v :=
  (rt_val hv p b (rtParams_spec hp) ht hm hl).1

/-- every one of the regenerated schema types is covered -/
theorem C05_schema : Gen.schema.all (fun e => rtTy e.2) = true := by decide +kernel

/-- … so every canonical value of every CDR schema type that marshals round-trips, under any parameters in `rtParams` -/
theorem C05_every_schema_type (name : String) (t : Ty) (hmem : (name, t) ∈ Gen.schema) (p : Params) (v : Val)
    (hp : rtParams p = true) (hv : Canon t v) (b : Bytes) (hm : marshal t p v = .ok b)
    (hl : b.length < 4611686018427387904) : unmarshal t p b = .ok v :=
  C05 t p v (by simpa using List.all_eq_true.mp C05_schema (name, t) hmem) hp hv b hm hl

/-- in particular the record the CHF writes, with the parameters the CHF uses ("explicit,choice") -/
theorem C05_chf_record (v : Val) (hv : Canon Gen.T_CHFRecord v) (b : Bytes)
    (hm : marshal Gen.T_CHFRecord ⟨false, none, true, false, false, 0⟩ v = .ok b) (hl : b.length < 4611686018427387904) :
    unmarshal Gen.T_CHFRecord ⟨false, none, true, false, false, 0⟩ b = .ok v :=
  -- the entry is found by its name, so its place in the generated table does not matter
  C05 _ _ v (List.all_eq_true.mp C05_schema ("CHFRecord", Gen.T_CHFRecord)
    (List.mem_of_find?_eq_some (p := (·.1 == "CHFRecord")) rfl)) (by decide) hv b hm hl

open Chf.Ber in
/-- non-vacuity: a SEQUENCE with an absent OPTIONAL member, a present one and a CHOICE member is canonical -/
example : Canon
    (.struct (.cons ⟨true, some 0, false, false, false, 0⟩ (.ptr (.int 64))
             (.cons ⟨true, some 1, false, false, false, 0⟩ (.ptr .bool)
             (.cons ⟨false, some 2, false, false, false, 0⟩
                (.choice (.cons ⟨false, some 0, false, false, false, 0⟩ .octets
                         (.cons ⟨false, some 1, false, false, false, 0⟩ .enum .nil))) .nil))))
    (.struct (.cons .nil (.cons (.bool true) (.cons (.choice 2 (.cons .nil (.cons (.int 7) .nil))) .nil)))) := by
  refine .struct (.absent rfl (.present (.ptr .bool) (.present ?_ .nil)))
  exact .choice (v := .int 7) (by decide) (.there (.here (.enum ⟨by decide, by decide⟩))) rfl rfl

/-! ### the domain the check judges (`ber dom` of the driver) is one the law is proved for -/

theorem primParams_tag {p : Params} (h : primParams p = true) : ∀ n, p.tagNumber = some n → n < 9223372036854775808 := by
  intro n hn
  simpa [primParams, hn] using h

theorem trunc32_range (i : Int) (h : truncInt 32 i = i) : -(2 : Int) ^ (32 - 1) ≤ i ∧ i < (2 : Int) ^ (32 - 1) :=
  (truncInt_iff (by decide) (by decide) i).mp h

theorem int_range (w : Nat) (hw : w = 32 ∨ w = 64) (i : Int) (h64 : int64 i) (ht : truncInt w i = i) :
    -(2 : Int) ^ (w - 1) ≤ i ∧ i < (2 : Int) ^ (w - 1) := by
  rcases hw with rfl | rfl
  · exact trunc32_range i ht
  · exact (int64_iff i).mp h64

/-- primitives under any tagging, behind pointers and (INTEGER, ENUMERATED, OCTET STRING, character strings) a Value wrapper -/
theorem prim_domain_rt : ∀ (t : Ty) (p : Params) (v : Val), primDomain t p = true → Canon t v →
    ∀ b, marshal t p v = .ok b → b.length < 4611686018427387904 → unmarshal t p b = .ok v
  | t, p, v, hd, hv, b, hm, hl => by
    -- on a primitive `primDomain` asks of the parameters what `canon_prim_rt` needs
    have prim : ∀ {t}, isPrim t = true → primDomain t p = true → Canon t v → marshal t p v = .ok b →
        unmarshal t p b = .ok v ∧ unmarshal (.wrap t) p b = .ok v := fun {t} ht hd hv hm => by
      have : primParams p = true ∧ ∀ d, t = .str d → stringTagOf p d < 9223372036854775808 := by
        cases t with
        | str d =>
          simp only [primDomain, Bool.and_eq_true, decide_eq_true_eq] at hd
          exact ⟨hd.1, fun _ e => Ty.str.inj e ▸ hd.2⟩
        | int w => exact ⟨((Bool.and_eq_true ..).mp hd).2, nofun⟩
        | bool | enum | octets | bits | null => exact ⟨hd, nofun⟩
        | oid | unsupported => cases hd
        | _ => cases ht
      obtain ⟨l, hlf, _, rfl⟩ := marshal_prim ht hm
      exact canon_prim_rt ht hv hlf this.2 (fits_of_short (primParams_tag this.1) hl) hm
    cases t with
    | ptr t =>
      cases hv with
      | ptr hv =>
        exact unmarshal_ptr.trans (prim_domain_rt t p v hd hv b ((marshal_ptr (canon_ne_nil hv)).symm.trans hm) hl)
    | wrap t =>
      cases hv with
      | wrap hv =>
        -- a Value wrapper is in the domain only around INTEGER, ENUMERATED, OCTET STRING and character strings
        have : isPrim t = true ∧ primDomain t p = true := by cases t <;> first | exact ⟨rfl, hd⟩ | cases hd
        exact (prim this.1 this.2 hv (marshal_wrap.symm.trans hm)).2
    | slice _ | struct _ | choice _ | oid | unsupported => cases hd
    | _ => exact (prim rfl hd hv hm).1
termination_by structural t => t

/-- C05 on the whole domain the check judges: for every (type, parameters) the driver answers `in` for, every canonical
    value that marshals is brought back by unmarshal -/
theorem C05_domain (t : Ty) (p : Params) (v : Val) (hd : inDomain t p = true) (hv : Canon t v)
    (b : Bytes) (hm : marshal t p v = .ok b) (hl : b.length < 4611686018427387904) : unmarshal t p b = .ok v := by
  simp only [inDomain, Bool.or_eq_true, Bool.and_eq_true] at hd
  rcases hd with h | h
  · exact C05 t p v h.1 h.2 hv b hm hl
  · exact prim_domain_rt t p v h hv b hm hl

/-- every schema type is in it, under the parameters the CHF uses (none, and "explicit,choice" for the record) -/
theorem C05_domain_schema :
    Gen.schema.all (fun e => inDomain e.2 {} && inDomain e.2 ⟨false, none, true, false, false, 0⟩) = true := by
  rw [List.all_eq_true]
  intro e he
  have ht : rtTy e.2 = true := List.all_eq_true.mp C05_schema e he
  have h1 : rtParams {} = true := by decide
  have h2 : rtParams ⟨false, none, true, false, false, 0⟩ = true := by decide
  simp only [inDomain, ht, h1, h2, Bool.and_self, Bool.true_or]

/-! ### histories of calls: the octets marshal returns are a value, not a view of storage shared with later calls

  `marshal` / `unmarshal` of the model are functions.  The Go procedures are, as long as no call leaves anything behind in a
  package-level variable (Model/CodecState.lean).  That no variable of cdr/asn can be changed by a call is read off the
  source on every run (Gen/AsnGlobals.lean) and checked here by `decide`; the run-time side is the `H` operation of the
  ber stream (results kept across later calls and other goroutines, arguments overwritten, then compared and decoded). -/

open Chf.CodecState in
/-- regenerated from the working tree: nothing outside init assigns to, takes the address of, or calls a method on a
    package-level variable of cdr/asn (reflect.Type handles excepted), in the package or from its importers -/
theorem C05_codec_globals_frozen : allFrozen Gen.asnGlobals = true := by decide

/-- marshal, then unmarshal into a fresh variable: one call of the round trip -/
def roundTrip (i : Ty × Params × Val) : Res Val :=
  match marshal i.1 i.2.1 i.2.2 with
  | .ok b => unmarshal i.1 i.2.1 b
  | .err => .err
  | .panic => .panic

open Chf.CodecState in
/-- C05 over histories: let `impl` be any procedure over the package-level store that respects the regenerated facts and
    answers single calls from the initial store like the model (the correspondence run).  Then in EVERY history of calls —
    whatever was marshalled before — every value of the domain of `C05` that marshals comes back as itself. -/
theorem C05_history {V : Type} (impl : Store V → (Ty × Params × Val) → Res Val × Store V)
    (hr : Respects Gen.asnGlobals impl) (g : Store V) (hcorr : ∀ i, (impl g i).1 = roundTrip i)
    (hist : List (Ty × Params × Val)) (t : Ty) (p : Params) (v : Val)
    (ht : rtTy t = true) (hp : rtParams p = true) (hv : Canon t v)
    (b : Bytes) (hm : marshal t p v = .ok b) (hl : b.length < 4611686018427387904) :
    (impl (after impl g hist) (t, p, v)).1 = .ok v := by
  rw [history_independent C05_codec_globals_frozen hr g hist, hcorr]
  simp only [roundTrip, hm]
  exact C05 t p v ht hp hv b hm hl

open Chf.CodecState in
/-- … and a whole history answers item by item what the single calls answer (the Lean driver's answer to an `H` line) -/
theorem C05_history_answers {V : Type} (impl : Store V → (Ty × Params × Val) → Res Val × Store V)
    (hr : Respects Gen.asnGlobals impl) (g : Store V) (hcorr : ∀ i, (impl g i).1 = roundTrip i)
    (hist : List (Ty × Params × Val)) : answers impl g hist = hist.map roundTrip := by
  rw [answers_eq_map C05_codec_globals_frozen hr g hist]
  exact List.map_congr_left (fun i _ => hcorr i)

end Chf.Props.C05
