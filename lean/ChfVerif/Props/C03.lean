import ChfVerif.Model.CdrDump
import ChfVerif.Lemmas.TS32297
import ChfVerif.Lemmas.RecordCanon
import ChfVerif.Props.C04
import ChfVerif.Props.C05
/-
  C03 — every CDR file the CHF writes is a well-formed, decodable TS 32.297 file.

  `dumpBytes recs` is what dumpCdrFile + CDRFile.Encoding write for the marshalled records `recs`.
  C03_file: whenever every record fits the 16-bit record length, the independent TS 32.297 reader
  (Spec/TS32297.lean) reads the file back with exactly those payloads, the header-length and file-length
  fields are the real sizes and the count is the number of records — for any number and sizes of records.
  C03_oversize: the hypothesis is necessary; a record longer than 65535 octets is written with a length
  field that is not its size.  That the processor never *hands* such a record to dumpCdrFile (the
  size guard of the update path, the unguarded create/release paths) is not a consequence of this model:
  it is decided per run on the files the real CHF writes (see DESIGN.md, C03 — partial).
  The second half of the file is about the payloads: `C03_payload` / `C03_records_file` (every record of the
  charging model encodes to one well-formed element that decodes back), and what the size guard of the update
  path does guarantee (`C03_guard_partial`) and does not (`C03_guard_full_false`).
-/
namespace Chf.Props.C03
open Chf Chf.CdrFile Chf.CdrDump Chf.TS32297

/-- octets the records take in the file: each payload behind its 4-octet record header (the file header takes 52) -/
def total : List Bytes → Nat
  | [] => 0
  | r :: rs => r.length + 4 + total rs

theorem fileLength_eq (recs : List Bytes) (acc : Nat) (h : acc + total recs < 4294967296) :
    fileLength recs acc = acc + total recs := by
  induction recs generalizing acc with
  | nil => simp [fileLength, total]
  | cons r rs ih =>
    simp only [total] at h
    simp only [fileLength, total]
    have e : (acc + (r.length % 4294967296 + 4) % 4294967296) % 4294967296 = acc + r.length + 4 := by omega
    rw [e, ih _ (by omega)]
    omega

theorem cdrsLength_dump (recs : List Bytes) : cdrsLength (recs.map dumpCdr) = total recs := by
  induction recs with
  | nil => rfl
  | cons r rs ih => simp only [List.map, cdrsLength, total, ih, dumpCdr, extCount]; simp; omega

theorem dumpCdr_WF (r : Bytes) (hl : r.length ≤ 65535) (hb : Bytes.ok r) : (dumpCdr r).WF := by
  simp [Cdr.WF, CdrHeader.WF, dumpCdr, hb]
  omega

theorem zeroTs_WF : zeroTs.WF := by unfold TimeStamp.WF zeroTs; decide

theorem dumpFile_WF (recs : List Bytes) (hsz : ∀ r ∈ recs, r.length ≤ 65535 ∧ Bytes.ok r)
    (htot : 52 + total recs < 4294967296) : (dumpFile recs).WF := by
  have hn : recs.length < 4294967296 := by
    have : ∀ l : List Bytes, l.length ≤ total l := by
      intro l; induction l with
      | nil => simp [total]
      | cons a t ih => simp only [List.length_cons, total]; omega
    have := this recs; omega
  refine ⟨?_, ?_, ?_⟩
  · simp [FileHeader.WF, dumpFile, dumpHeader, fileLength_eq recs 52 htot, zeroTs_WF, Bytes.ok]
    omega
  · simp [dumpFile, dumpHeader]; omega
  · intro c hc
    simp only [dumpFile, List.mem_map] at hc
    obtain ⟨r, hr, rfl⟩ := hc
    exact dumpCdr_WF r (hsz r hr).1 (hsz r hr).2

/-- C03 (file level): with every record within the 16-bit limit, the written file reads back, under an
    independent TS 32.297 reader, as exactly the records handed in, and its length fields are the real sizes. -/
theorem C03_file (recs : List Bytes) (hsz : ∀ r ∈ recs, r.length ≤ 65535 ∧ Bytes.ok r)
    (htot : 52 + total recs < 4294967296) :
    read (dumpBytes recs) = some (dumpFile recs) ∧
    (dumpFile recs).cdrs.map (·.bytes) = recs ∧
    (∀ c ∈ (dumpFile recs).cdrs, c.hdr.cdrLength = c.bytes.length) ∧
    (dumpFile recs).hdr.numCdrs = recs.length ∧
    (dumpFile recs).hdr.fileLength = (dumpBytes recs).length ∧
    (dumpFile recs).hdr.headerLength = (encodeHeader (dumpFile recs).hdr).length := by
  have hw := dumpFile_WF recs hsz htot
  refine ⟨read_encodeFile _ hw, ?_, ?_, ?_, ?_, ?_⟩
  · simp [dumpFile, dumpCdr, Function.comp_def]
  · intro c hc; exact (hw.2.2 c hc).2.1.symm
  · exact hw.2.1.trans (List.length_map _)
  · unfold dumpBytes encodeFile
    rw [List.length_append, encodeHeader_length _ (by simp [dumpFile, dumpHeader]), encodeCdrs_length]
    simp only [dumpFile, dumpHeader, cdrsLength_dump, fileLength_eq recs 52 htot, extCount]
    simp
  · rw [encodeHeader_length _ (by simp [dumpFile, dumpHeader])]
    simp [dumpFile, dumpHeader, extCount]

/-- the reader-level statement used as the run-time oracle holds of every such file -/
theorem C03_lengths_consistent (recs : List Bytes) (hsz : ∀ r ∈ recs, r.length ≤ 65535 ∧ Bytes.ok r)
    (htot : 52 + total recs < 4294967296) : lengthsConsistent (dumpBytes recs) = true := by
  obtain ⟨_, _, _, _, hfl, hhl⟩ := C03_file recs hsz htot
  exact lengthsConsistent_encodeFile _ (dumpFile_WF recs hsz htot) hfl hhl

/-- C03 (necessity of the limit): a record of more than 65535 octets gets a length field that is not its size. -/
theorem C03_oversize (r : Bytes) (h : r.length > 65535) : (dumpCdr r).hdr.cdrLength ≠ (dumpCdr r).bytes.length := by
  simp only [dumpCdr]; omega

/-- the guard of the update path starts a new record exactly when the two marshalled sizes exceed 65535 -/
theorem C03_guard (a b : Nat) : startsNewRecord a b = true ↔ a + b > 65535 := by
  simp [startsNewRecord]

/-- non-vacuity: two small records -/
example : (∀ r ∈ [[48, 0], [48, 1, 5]], r.length ≤ 65535 ∧ Bytes.ok r) ∧ 52 + total [[48, 0], [48, 1, 5]] < 4294967296 := by
  unfold Bytes.ok; decide

/-! ### the payloads: from the charging model's records to the octets (Model/RecordBer.lean)

  `recordVal e r` is the Go value OpenCDR / UpdateCDR / CloseCDR build for the model record `r`
  (`e`: NF id, opening time, consumer functionality), `recordBytes e r` what `asn.BerMarshalWithParams(&record,
  "explicit,choice")` returns for it on the REGENERATED schema type `Gen.T_CHFRecord` — the call of dumpCdrFile
  and of the size guard.  The real code's octets are compared with it on every run (recber / cdrsize streams). -/

open Chf.RecordBer Chf.Ber Chf.Charging

/-- C03 (payload): every record the bookkeeping can hold — any identifiers, any number of usage entries and
    containers — marshals without error or panic to one complete, well-formed BER element (the independent X.690
    walker accepts it) that decodes back to exactly the record's value. -/
theorem C03_payload (e : RecEnv) (r : Record) (h : RecInt64 e r) (hl : (recordEnc e r).length < 4611686018427387904) :
    recordBytes e r = .ok (recordEnc e r) ∧
    X690.wellFormed (recordEnc e r) = true ∧
    unmarshal (.ptr (.ptr Gen.T_CHFRecord)) topParams (recordEnc e r) = .ok (recordVal e r) := by
  have hm := recordBytes_eq e r
  refine ⟨hm, ?_, ?_⟩
  · exact C04.C04_wellformed (.ptr (.ptr Gen.T_CHFRecord)) topParams (recordVal e r) _ (by decide +kernel) (by decide +kernel)
      (by decide) (by decide) (valOK_record e r h) (bitsOK_record e r) (by omega) hm
  · -- the two pointers are transparent on both sides: this is `C05_chf_record`
    have hc := canon_record e r h
    rw [recordBytes, marshal_ptr (canon_ne_nil hc), marshal_ptr (canon_ne_nil hc)] at hm
    rw [unmarshal_ptr, unmarshal_ptr]
    exact C05.C05_chf_record _ hc _ hm hl

/-- C03 (file of records): when every record of the subscriber encodes within the 16-bit record length, the file
    dumpCdrFile writes reads back (independent TS 32.297 reader) with exactly those encodings as payloads, consistent
    length and count fields, and every payload a well-formed BER element — for any number of records. -/
theorem C03_records_file (rs : List (RecEnv × Record))
    (hr : ∀ x ∈ rs, RecInt64 x.1 x.2 ∧ RecOctets x.1 x.2 ∧ (recordEnc x.1 x.2).length ≤ 65535)
    (htot : 52 + total (rs.map fun x => recordEnc x.1 x.2) < 4294967296) :
    let recs := rs.map fun x => recordEnc x.1 x.2
    read (dumpBytes recs) = some (dumpFile recs) ∧
    (dumpFile recs).cdrs.map (·.bytes) = recs ∧
    lengthsConsistent (dumpBytes recs) = true ∧
    ∀ b ∈ recs, X690.wellFormed b = true := by
  intro recs
  have hsz : ∀ b ∈ recs, b.length ≤ 65535 ∧ Bytes.ok b := by
    intro b hb
    obtain ⟨x, hx, rfl⟩ := List.mem_map.mp hb
    exact ⟨(hr x hx).2.2, recordEnc_ok x.1 x.2 (hr x hx).2.1⟩
  obtain ⟨h1, h2, _⟩ := C03_file recs hsz htot
  refine ⟨h1, h2, C03_lengths_consistent recs hsz htot, ?_⟩
  intro b hb
  obtain ⟨x, hx, rfl⟩ := List.mem_map.mp hb
  exact (C03_payload x.1 x.2 (hr x hx).1 (by have := (hr x hx).2.2; omega)).2.1

/-- C03 (the guard of the update path, partial): when `len(record) + len(usage)` — the two sizes ChargingDataUpdate adds
    up — is within 65535, so that the usage is appended to the session's record, the record written is at most
    TWO octets longer than that sum (enclosing length fields widen): at most 65537 octets.  Full statement
    (`≤ 65535`) is false of the code: see `C03_guard_full_false`. -/
theorem C03_guard_partial (e : RecEnv) (r : Record) (us : List Usage) (hne : us ≠ [])
    (hg : berGuard e r us = false) :
    lenOf (recordBytes e (appendUsage r us)) ≤ lenOf (recordBytes e r) + lenOf (chgBytes us) + 2 ∧
    lenOf (recordBytes e (appendUsage r us)) ≤ 65537 := by
  have hsum := (berGuard_eq_false hne).1 hg
  have h := append_size_bound e r us hne hsum
  exact ⟨h, by omega⟩

/-- the known finding `update-guard-ignores-header-growth` as a theorem: a record of 36 octets and usage of 65499
    octets add up to exactly 65535, the guard does not start a new record, and the record written has 65537 octets -/
theorem C03_guard_full_false :
    ¬ (∀ (e : RecEnv) (r : Record) (us : List Usage), berGuard e r us = false →
        lenOf (recordBytes e (appendUsage r us)) ≤ 65535) := by
  intro h
  obtain ⟨L, h1, _, h3⟩ := guard_tight
  have := h e0 r0 [bigUsage L] h1
  omega

/-- non-vacuity: a record with a PDU session, an IPv4 address and one usage entry of two containers meets the
    hypotheses of `C03_payload` -/
example : RecInt64
    ({ nfId := [110, 102], openTime := [38, 9, 48, 4, 68, 5, 43, 0, 0], functionality := 1,
       v4 := some [49, 46, 50], pdu := some ⟨7, 1, 1, [1, 2, 3], [105]⟩ } : RecEnv)
    { sid := some [115], subData := [50], cid := 7, nf := some [97], lsn := 1, rsn := none, cause := 0,
      usage := [{ rg := 1, upf := [117], cs := [⟨1, 5, 2, 3, 0, 1⟩, ⟨2, 70000, 1, 69999, 0, 2⟩] }] } := by
  unfold RecInt64 UsageInt64 ContInt64 int64
  exact ⟨by decide, by decide, by decide, by decide, nofun, by decide, fun d hd => by cases hd; decide⟩

end Chf.Props.C03
