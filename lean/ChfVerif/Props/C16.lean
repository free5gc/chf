import ChfVerif.Lemmas.BerSafe
import ChfVerif.Spec.BerSpec
import ChfVerif.Gen.AsnGlobals
/-
  C16 — the BER decoder is safe on arbitrary bytes: an error or a value, never a panic.

  In the model every Go index / slice expression is a partial accessor whose failure is the outcome
  `Res.panic`; the theorems show that outcome is unreachable — for every type description, every field
  parameter set and every octet string, with no bound on lengths or nesting.  Termination ("never loops
  forever") is Lean's acceptance of the definitions: every loop of the decoder is a recursion on a measure
  (type size, remaining elements).
-/
namespace Chf.Props.C16
open Chf Chf.Ber

/-- Unmarshal never panics and never reads outside the octets it was given. -/
theorem C16 (t : Ty) (p : Params) (b : Bytes) : unmarshal t p b ≠ .panic :=
  unmarshal_no_panic t p b

/-- so it returns a value or an error -/
theorem C16_value_or_error (t : Ty) (p : Params) (b : Bytes) :
    (∃ v, unmarshal t p b = .ok v) ∨ unmarshal t p b = .err := by
  cases h : unmarshal t p b with
  | ok v => left; exact ⟨v, rfl⟩
  | err => right; rfl
  | panic => exact absurd h (C16 t p b)

/-- the header parser is safe on its own, and an accepted header lies inside the input -/
theorem C16_header (b : Bytes) :
    parseTagAndLength b ≠ .panic ∧ ∀ t, parseTagAndLength b = .ok t → 1 ≤ t.off ∧ t.off ≤ b.length :=
  parseTagAndLength_spec b

/-- empty input is an error for the header parser … -/
theorem C16_empty_header : (parseTagAndLength []).isErr = true := by decide

/-- … truncated long-form lengths, indefinite lengths, lengths of more than 8 octets, and lengths that are
    negative as int64 or exceed the input are errors -/
example : (parseTagAndLength [2, 131, 1]).isErr = true := by decide        -- 02 83 01
example : (parseTagAndLength [2, 128]).isErr = true := by decide           -- indefinite form
example : (parseTagAndLength [2, 137, 0, 0, 0, 0, 0, 0, 0, 0, 1, 7]).isErr = true := by decide
example : (parseTagAndLength [2, 136, 255, 255, 255, 255, 255, 255, 255, 255, 7]).isErr = true := by decide
example : (parseTagAndLength [2, 132, 0, 0, 1, 0, 7]).isErr = true := by decide

/-- empty input is an error for every target type -/
theorem C16_empty (t : Ty) (p : Params) : enter t p [] = .err := rfl

/-- a declared length beyond the input is an error for every target type -/
theorem C16_overlong (t : Ty) (p : Params) (b : Bytes) (tal : Tal)
    (hp : parseTagAndLength b = .ok tal) (hlong : tal.off + tal.len > b.length) : enter t p b = .err :=
  (enter_eq hp).trans (if_pos hlong)

/-- zero-length primitives are errors -/
theorem C16_zero_length_bits : (parseBitString []).isErr = true := by decide
theorem C16_zero_length_int : (parseSigned []).isErr = true := by decide
example : (parseBitString [8, 1]).isErr = true := by decide     -- unused-bits count above 7

/-- … at the level of whole elements, whatever follows them: a BOOLEAN / INTEGER / ENUMERATED / BIT STRING element
    whose length octets say 0 is reported as an error (the element ends where its length says; octets behind it are
    not its content) -/
theorem C16_zero_length_element (t : Ty) (p : Params) (b : Bytes) (tal : Tal)
    (ht : t = .bool ∨ t = .enum ∨ t = .bits ∨ ∃ w, t = .int w)
    (hp : parseTagAndLength b = .ok tal) (h0 : tal.len = 0) (hnu : needsUnwrap t p = false) :
    unmarshal t p b = .err := by
  have hprim : isPrim t = true := by rcases ht with rfl | rfl | rfl | ⟨w, rfl⟩ <;> rfl
  have hempty : primValue t ((b.take tal.off).drop tal.off) = .err := by
    rw [List.drop_eq_nil_of_le (by rw [List.length_take]; exact Nat.min_le_left ..)]
    rcases ht with rfl | rfl | rfl | ⟨w, rfl⟩ <;> rfl
  rw [unmarshal_prim t p b hprim, enter_eq hp, h0, Nat.add_zero, hnu, if_neg Bool.false_ne_true]
  -- bound check and tag check are errors; behind them the content is the empty string
  split
  · rfl
  split
  · rfl
  · exact hempty

/-- the run-time oracle's predicate implies the error -/
theorem C16_zeroLenPrim_is_error (t : Ty) (p : Params) (b : Bytes) (h : zeroLenPrim t p b = true) :
    unmarshal t p b = .err := by
  unfold zeroLenPrim at h
  simp only [Bool.and_eq_true, Bool.not_eq_true'] at h
  obtain ⟨⟨ht, hnu⟩, hlen⟩ := h
  cases hp : parseTagAndLength b with
  | ok tal =>
    rw [hp] at hlen
    refine C16_zero_length_element t p b tal ?_ hp (by simpa using hlen) hnu
    cases t <;> simp at ht <;> simp
  | _ => rw [hp] at hlen; cases hlen

/-- non-vacuity and the concrete shapes: `01 00 07` into a BOOLEAN, `02 00 ff` into an INTEGER, `0a 00 01` into an
    ENUMERATED are errors (a trailing octet used to be taken for the content) -/
example : unmarshal .bool {} [1, 0, 7] = .err :=
  C16_zero_length_element .bool {} [1, 0, 7] ⟨0, false, 1, 0, 2⟩ (Or.inl rfl) (by rfl) rfl rfl
example : unmarshal (.int 64) {} [2, 0, 255] = .err :=
  C16_zero_length_element (.int 64) {} [2, 0, 255] ⟨0, false, 2, 0, 2⟩ (Or.inr (Or.inr (Or.inr ⟨64, rfl⟩))) (by rfl) rfl rfl

/-- a wrongly tagged element is never accepted by the entry checks -/
theorem C16_wrong_tag (t : Ty) (p : Params) (b : Bytes) (tal : Tal)
    (hp : parseTagAndLength b = .ok tal) (hbad : tagOk t p tal = false) : enter t p b = .err := by
  rw [enter_eq hp, hbad]
  split <;> rfl

/-! ### every call, in every history and under every interleaving

  `C16` is about a function of (type, parameters, octets).  The Go decoder is that function as long as no call reads
  or leaves anything in a package-level variable that an earlier or a concurrent call wrote (a cache keyed by type, say:
  besides changing answers, an unsynchronised one aborts the process — neither a value nor an error).  The facts are
  regenerated from the source (Gen/AsnGlobals.lean); the run-time side is the `V` operation of the ber stream (several
  goroutines decoding at once into types the process has not seen, twice). -/

open Chf.CodecState in
theorem C16_codec_globals_frozen : allFrozen Gen.asnGlobals = true := by decide

open Chf.CodecState in
/-- any procedure over the package-level store that respects the regenerated facts and answers single calls from the
    initial store like the model returns a value or an error — never a panic — after ANY history of earlier calls, and
    answers a repeated call as it answered it the first time -/
theorem C16_history {V : Type} (impl : Store V → (Ty × Params × Bytes) → Res Val × Store V)
    (hr : Respects Gen.asnGlobals impl) (g : Store V) (hcorr : ∀ i, (impl g i).1 = unmarshal i.1 i.2.1 i.2.2)
    (hist : List (Ty × Params × Bytes)) (t : Ty) (p : Params) (b : Bytes) :
    (impl (after impl g hist) (t, p, b)).1 ≠ .panic ∧
    (impl (after impl g hist) (t, p, b)).1 = (impl g (t, p, b)).1 := by
  rw [history_independent C16_codec_globals_frozen hr g hist]
  exact ⟨by rw [hcorr]; exact C16 t p b, rfl⟩

open Chf.CodecState in
/-- goroutines: whatever the scheduler does, every goroutine ends where it ends when it runs alone, and the package-level
    store is untouched — concurrent decodings answer what the same decodings answer one after the other -/
theorem C16_schedule {V L : Type} (micro : Micro V L) (hr : RespectsMicro Gen.asnGlobals micro) (g : Store V)
    (sched : List Nat) (ls : Nat → L) :
    (runSched micro g ls sched).2 = g ∧
    ∀ k, (runSched micro g ls sched).1 k = runAlone micro g (ls k) (sched.count k) :=
  schedule_independent C16_codec_globals_frozen hr g sched ls

end Chf.Props.C16
