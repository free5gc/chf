import ChfVerif.Model.Diameter
import ChfVerif.Gen.Diameter
import ChfVerif.Lemmas.Bits
import ChfVerif.Lemmas.Tables
/-
  C17 — Diameter messages carry every field intact; the dictionaries cover the structures.

  Regenerated tables (Gen/Diameter.lean): every AVP definition of the two dictionaries the components
  load, and for every `avp:` struct tag reachable from the four message structures what the loaded
  dictionary resolves it to.  Discharged by evaluation over the complete tables (the two uniqueness statements are the two
  halves of `dictAvps_consistent`, Lemmas/Tables.lean, which looks at each pair of definitions once).
  The basic AVP data formats are modelled (go-diameter is a library) and proved to round-trip over the
  full range of each type; end-to-end field fidelity over a real message serialisation is the `diam`
  correspondence stream.
-/
namespace Chf.Props.C17
open Chf Chf.Diameter

/-- every AVP name used by the message structures is defined in the loaded dictionaries … -/
theorem C17_defined : ∀ t ∈ Chf.Gen.avpTags, t.found = true := by decide +kernel

/-- … with a data type the Go field can carry -/
theorem C17_types_match : ∀ t ∈ Chf.Gen.avpTags, compatible t.goKind t.dictType = true := by decide +kernel

def sameKey (a b : AvpDef) : Bool := a.app == b.app && a.code == b.code && a.vendor == b.vendor

/-- … and a unique code: within the dictionaries the components load, two definitions with the same
    (application, code, vendor) are definitions of the same AVP name -/
theorem C17_codes_unique :
    ∀ a ∈ Chf.Gen.dictAvps, ∀ b ∈ Chf.Gen.dictAvps, sameKey a b = true → a.name = b.name :=
  fun a ha b hb => (dictAvps_consistent a ha b hb).1

/-- a name is defined with one code only -/
theorem C17_names_unique :
    ∀ a ∈ Chf.Gen.dictAvps, ∀ b ∈ Chf.Gen.dictAvps, a.name = b.name → a.code = b.code ∧ a.type = b.type :=
  fun a ha b hb => (dictAvps_consistent a ha b hb).2

/-- the CHF's two client functions hand the decoded answer to the processor as decoded: in the select case that
    receives the answer nothing stands between `Unmarshal` and `return` (regenerated by go/ast; value fidelity of the
    receive path itself is the `diam client` stream) -/
theorem C17_client_pass_through :
    Chf.Gen.clientPassThrough.length = 2 ∧ ∀ c ∈ Chf.Gen.clientPassThrough, c.2 = true := by decide

/-! ### basic data formats round-trip over their full range -/

theorem C17_u32 (x : Nat) (h : x < 4294967296) : decU32 (encU32 x) = some x := by
  rw [encU32, Nat.mod_eq_of_lt h, be32, decU32, rd32_be32 h]

theorem C17_u64 (x : Nat) (h : x < 18446744073709551616) : decU64 (encU64 x) = some x := by
  unfold encU64 decU64 be64 be32
  rw [Nat.mod_eq_of_lt h]
  simp only [List.cons_append, List.nil_append, Option.some.injEq]
  have h1 : x / 4294967296 % 4294967296 < 4294967296 := Nat.mod_lt _ (by decide)
  have h2 : x % 4294967296 < 4294967296 := Nat.mod_lt _ (by decide)
  rw [rd32_be32 h1, rd32_be32 h2]
  omega

theorem C17_i32 (x : Int) (h : -2147483648 ≤ x ∧ x < 2147483648) : decI32 (encI32 x) = some x := by
  unfold decI32 encI32
  have hlt : (x % 4294967296).toNat < 4294967296 := by omega
  rw [C17_u32 _ hlt]
  simp only [Option.some.injEq]
  split <;> omega

theorem C17_i64 (x : Int) (h : -9223372036854775808 ≤ x ∧ x < 9223372036854775808) :
    decI64 (encI64 x) = some x := by
  unfold decI64 encI64
  have hlt : (x % 18446744073709551616).toNat < 18446744073709551616 := by omega
  rw [C17_u64 _ hlt]
  simp only [Option.some.injEq]
  split <;> omega

end Chf.Props.C17
