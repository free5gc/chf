import ChfVerif.Lemmas.Convert
import ChfVerif.Lemmas.ChargingRecords
import ChfVerif.Lemmas.ChargingSessions
import ChfVerif.Model.RecordBer
/-
  C02 — reported usage is recorded exactly once, in the right session's CDR; the opening timestamp
  is the TS 32.298 BCD form of the creation instant in every time zone.

  The timestamp encoder, for every civil time and every zone offset of whole minutes within ±14 h (positive,
  negative, not hour-aligned).
  The bookkeeping of the charging model, over every history: what a subscriber's records hold is, as a multiset, what
  its accepted requests reported (`C02_exactly_once`); what the records of one session hold is, in this order, what the
  create that opened it and the updates and the release addressed to it reported (`C02_session_in_order`); rejected
  requests and other subscribers' requests leave the records alone; a release closes its record with cause 0.  For the
  implementation the same per-session oracle is evaluated on its trace by the check (tracer = local sequence number of
  each container).
-/
namespace Chf.Convert
open Chf

/-- a civil time as Go produces it, with a zone offset of whole minutes within ±14 h -/
def Civil.WF (t : Civil) : Prop :=
  1 ≤ t.month ∧ t.month ≤ 12 ∧ 1 ≤ t.day ∧ t.day ≤ 31 ∧ t.hour < 24 ∧ t.minute < 60 ∧ t.second < 60 ∧
  -50400 ≤ t.tz ∧ t.tz ≤ 50400 ∧ t.tz % 60 = 0

theorem C02_timestamp (t : Civil) (h : t.WF) :
    readTimeStamp (timeStampToCdr t) =
      some ⟨t.year % 100, t.month, t.day, t.hour, t.minute, t.second, t.tz / 60⟩ := by
  obtain ⟨_, hmo, _, hd, hh, hmi, hs, hlo, hhi, hz⟩ := h
  exact readTimeStamp_timeStampToCdr t (by omega) (by omega) (by omega) (by omega) (by omega) (by omega) hz

end Chf.Convert

namespace Chf.Props.C02
open Chf Chf.Charging

/-- the timestamp theorem, under its property name -/
theorem C02_timestamp (t : Convert.Civil) (h : t.WF) :
    Convert.readTimeStamp (Convert.timeStampToCdr t) =
      some ⟨t.year % 100, t.month, t.day, t.hour, t.minute, t.second, t.tz / 60⟩ :=
  Chf.Convert.C02_timestamp t h

/-- conversion of reported usage to record entries keeps rating group, UPF id and every container
    (volumes, service specific units, local sequence number) in report order -/
theorem C02_conversion (us : List Usage) :
    (toRecUsage us).map (fun x => (x.rg, x.upf, x.cs)) = us.map (fun u => (u.rg, u.upf, u.cs)) := by
  simp [toRecUsage, List.map_map, Function.comp_def]

/-- appending to a record adds exactly the converted usage at the end and keeps every identity field -/
theorem C02_append_record (r : Record) (us : List Usage) :
    (appendUsage r us).usage = r.usage ++ toRecUsage us ∧ (appendUsage r us).sid = r.sid ∧
    (appendUsage r us).subData = r.subData ∧ (appendUsage r us).cid = r.cid ∧ (appendUsage r us).nf = r.nf ∧
    (appendUsage r us).lsn = r.lsn := ⟨rfl, rfl, rfl, rfl, rfl, rfl⟩

/-- a rejected request changes no record (nor the session map, nor the reservations) of anybody -/
theorem C02_rejected_untouched (guard : SplitGuard) (s : State) (op : Op)
    (h4 : (step guard s op).2.status = 400 ∨ (step guard s op).2.status = 404) (supi : Bytes) :
    ueView (step guard s op).1 supi = ueView s supi :=
  (rejected_view guard s op h4).2.2.2 supi

/-- … and unless it is a create refused by OpenCDR (which may leave an empty subscriber context behind) it changes
    nothing at all -/
theorem C02_rejected_context_untouched (guard : SplitGuard) (s : State) (op : Op)
    (h4 : (step guard s op).2.status = 400 ∨ (step guard s op).2.status = 404)
    (hnb : ∀ r, op = .create r → r.bad = false) (supi : Bytes) :
    findUe (step guard s op).1.ues supi = findUe s.ues supi := by
  rw [rejected_same guard s op h4 hnb]

/-- a request of one subscriber never touches the records (or anything else) of another subscriber -/
theorem C02_other_subscribers_untouched (guard : SplitGuard) (s : State) (op : Op) (supi : Bytes)
    (hne : ∀ sid r, (op = .update sid r ∨ op = .release sid r ∨ op = .create r) → r.supi ≠ supi)
    (hre : ∀ info ueId rgStr, op = .recharge info → splitUnderscore info = [ueId, rgStr] → ueId ≠ supi) :
    findUe (step guard s op).1.ues supi = findUe s.ues supi := by
  apply step_others
  cases op with
  | create r => exact fun e => hne [] r (Or.inr (Or.inr rfl)) (Option.some.inj e)
  | update sid r => exact fun e => hne sid r (Or.inl rfl) (Option.some.inj e)
  | release sid r => exact fun e => hne sid r (Or.inr (Or.inl rfl)) (Option.some.inj e)
  | recharge info =>
    simp only [subject]
    split
    next ueId rgStr hsp => exact fun e => hre info ueId rgStr rfl hsp (Option.some.inj e)
    next => exact fun e => by cases e
  | credit a b c => exact fun e => by cases e

/-- cause for record closing: a release closes the designated record with cause 0 (normal release) -/
theorem C02_release_cause (guard : SplitGuard) (s : State) (sid : Bytes) (r : Req) (ue : Ue) (idx : Nat)
    (h : findUe s.ues r.supi = some ue) (hs : lookupSid ue.cdr sid = some idx) (hi : idx < ue.records.length) :
    ∃ ue', findUe (step guard s (.release sid r)).1.ues r.supi = some ue' ∧
      (ue'.records.getD idx default).cause = 0 ∧
      (ue'.records.getD idx default).usage = (ue.records.getD idx default).usage ++ toRecUsage r.usages := by
  simp only [step, release, h, hs]
  refine ⟨_, by rw [findUe_putUe, if_pos (findUe_supi h).symm], ?_, ?_⟩ <;>
    simp [setRecord, List.getD_eq_getElem?_getD, hi, appendUsage]

/-- C02 (exactly once, every history): whatever the history — any number of subscribers and sessions,
    interleaved creates, updates, releases and recharges, rejected requests, record splits decided by any size
    guard — the usage recorded in a subscriber's records is, as a multiset, exactly the usage its accepted
    requests reported: nothing is lost, nothing is recorded twice, nothing of another subscriber creeps in. -/
theorem C02_exactly_once (guard : SplitGuard) (supi : Bytes) (ops : List Op)
    (accts : Abmf.Store) (tariffs : List Rating.Tariff) :
    List.Perm (usageOf (run guard { accts := accts, tariffs := tariffs } ops) supi)
      (contributedRun guard supi { accts := accts, tariffs := tariffs } ops) := by
  have h := usage_run guard supi ops { accts := accts, tariffs := tariffs } (SessInv_init accts tariffs)
  simpa [usageOf, findUe] using h

/-- C02 (per session, in report order — the full statement): whatever the history, the usage entries held by the records
    that carry session reference `sid` of subscriber `supi` — read in record order and, inside a record, in list order —
    are exactly, and in exactly this order, the usage entries of the accepted create that returned `sid` followed by those
    of every accepted update and release addressed to `sid`, in the order the requests were made: nothing is lost,
    duplicated, reordered, or recorded under another session's reference or another subscriber, across any number of
    record splits decided by any size guard. (`sid ≠ ""`: one-time events open no session.) -/
theorem C02_session_in_order (guard : SplitGuard) (supi sid : Bytes) (hsid : sid ≠ []) (ops : List Op)
    (accts : Abmf.Store) (tariffs : List Rating.Tariff) :
    sessUsage (run guard { accts := accts, tariffs := tariffs } ops) supi sid =
      contribSessRun guard supi sid { accts := accts, tariffs := tariffs } ops := by
  have h := sess_run guard supi sid hsid ops _ (SessInv_init accts tariffs)
  simpa [sessUsage, findUe] using h

/-- the bookkeeping invariant behind it, for every reachable state: the session map has no duplicate keys, every live
    reference designates the LAST record carrying it, every reference found in a record was issued with a smaller
    sequence number than the counter -/
theorem C02_session_invariant (guard : SplitGuard) (ops : List Op) (accts : Abmf.Store) (tariffs : List Rating.Tariff) :
    SessInv (run guard { accts := accts, tariffs := tariffs } ops) :=
  run_invariant guard (SessInv_step guard) ops _ (SessInv_init accts tariffs)

/-- non-vacuity: two interleaved sessions of one subscriber, a new record started at EVERY update (guard always true),
    a rejected update in between: each session's contribution is its own reports, in order -/
example :
    let supiX : Bytes := [105, 109, 115, 105, 45, 49]
    let u : Int → Usage := fun n => { rg := 1, req := none, upf := [117], cs := [⟨2, n, 0, n, 0, n⟩] }
    let rq : Bytes → List Usage → Req := fun nf us =>
      { supi := supiX, nf := some nf, cid := 1, seq := 0, uri := false, one := false, trigs := [], usages := us }
    let a := sessionId supiX [97] 0
    let b := sessionId supiX [98] 1
    let ops : List Op := [.create (rq [97] [u 1]), .create (rq [98] []), .update a (rq [97] [u 2]), .update b (rq [98] [u 3]),
      .update [1, 2] (rq [97] [u 9]), .release a (rq [97] [u 4, u 5])]
    contribSessRun (fun _ _ => true) supiX a {} ops = toRecUsage [u 1, u 2, u 4, u 5] ∧
    contribSessRun (fun _ _ => true) supiX b {} ops = toRecUsage [u 3] := by decide

/-- … and every session reference keeps designating an existing record -/
theorem C02_references_valid (guard : SplitGuard) (ops : List Op) (accts : Abmf.Store) (tariffs : List Rating.Tariff) :
    AllIdxOK (run guard { accts := accts, tariffs := tariffs } ops) :=
  (C02_session_invariant guard ops accts tariffs).allIdxOK

end Chf.Props.C02

namespace Chf.Props.C02
open Chf Chf.RecordBer

/-- a decimal digit character -/
def isDigit (c : Nat) : Prop := 48 ≤ c ∧ c ≤ 57

/-- C02 (consumer identification, PLMN identifier): for an MCC of three digits and an MNC of two digits the record
    holds the TS 23.003 / TS 32.298 PLMN-Id octets: MCC digit 2 | MCC digit 1, filler F | MCC digit 3, MNC digit 2 | MNC digit 1 -/
theorem C02_plmn2 (a b c d e : Nat) (ha : isDigit a) (hb : isDigit b) (hc : isDigit c) (hd : isDigit d) (he : isDigit e) :
    plmnIdToCdr [a, b, c] [d, e] = [(b - 48) * 16 + (a - 48), 15 * 16 + (c - 48), (e - 48) * 16 + (d - 48)] := by
  unfold isDigit at *
  simp only [plmnIdToCdr, hexPair, hexNibble]
  simp [ha, hb, hc, hd, he]

/-- … and for an MNC of three digits: MCC digit 2 | MCC digit 1, MNC digit 1 | MCC digit 3, MNC digit 3 | MNC digit 2 -/
theorem C02_plmn3 (a b c d e f : Nat) (ha : isDigit a) (hb : isDigit b) (hc : isDigit c) (hd : isDigit d) (he : isDigit e)
    (hf : isDigit f) :
    plmnIdToCdr [a, b, c] [d, e, f] = [(b - 48) * 16 + (a - 48), (d - 48) * 16 + (c - 48), (f - 48) * 16 + (e - 48)] := by
  unfold isDigit at *
  simp only [plmnIdToCdr, hexPair, hexNibble]
  simp [ha, hb, hc, hd, he, hf]

/-- every node functionality OpenCDR knows is recorded with its TS 32.298 value, any other name as 0 -/
theorem C02_functionality :
    functionalityCode (asciiBytes "SMF") = 1 ∧ functionalityCode (asciiBytes "AMF") = 2 ∧ functionalityCode (asciiBytes "SMSF") = 3 ∧
    functionalityCode (asciiBytes "SGW") = 4 ∧ functionalityCode (asciiBytes "I_SMF") = 5 ∧ functionalityCode (asciiBytes "ePDG") = 6 ∧
    functionalityCode (asciiBytes "CEF") = 7 ∧ functionalityCode (asciiBytes "NEF") = 8 ∧ functionalityCode (asciiBytes "PGW_C_SMF") = 9 ∧
    functionalityCode (asciiBytes "MnS_Producer") = 10 := by decide

/-- the consumer identification reaches the record unchanged: what OpenCDR puts into the record environment is the
    request's own strings (absent exactly when empty) -/
theorem C02_consumer_identification (nfId ot : Bytes) (c : Consumer) :
    (openEnv nfId ot c).v4 = nonEmpty c.v4 ∧ (openEnv nfId ot c).v6 = nonEmpty c.v6 ∧ (openEnv nfId ot c).fqdn = nonEmpty c.fqdn ∧
    (openEnv nfId ot c).svcSpec = nonEmpty c.svcSpec ∧ (openEnv nfId ot c).functionality = functionalityCode c.functionality :=
  ⟨rfl, rfl, rfl, rfl, rfl⟩

end Chf.Props.C02
