import ChfVerif.Lemmas.ChargingStep
/-
  C01 — credit is conserved.

  `total s supi rg` = stored account balance + reservation the CHF holds for (supi, rg).
  Every operation changes it by exactly  + money credited − unit cost × online usage reported,
  hence over any history  total = initial total + Σ credits − Σ unit cost × usage.

  The property's quantifier ("rating and account servers reachable, products fit the Unsigned32
  AVPs, tariff constant") is the decidable predicate `opOKb` / `runOKb`, evaluated along the run.

  Across outages (the servers' reachability is part of the state, `Ev.reach` toggles it) the identity
  generalises: every operation moves balance + reservation by  + credited − *booked*  (`accountedOp`, the
  independent statement of what the error paths book: reserve mode books the usage whether or not the
  account server answers, at unit cost 1 when the rating server is unreachable; debit mode books nothing
  unless both answer) — `C01_outage_step`, `C01_outage`; no operation ever creates credit
  (`C01_outage_no_credit_created`); with both servers reachable booked = rated (`C01_booked_eq_rated`).
-/
namespace Chf.Props.C01
open Chf Chf.Charging

theorem creditedOp_charged {s : State} {op : Op} {x} (h : chargedUsages s op = some x) (supi : Bytes) (rg : Int) :
    creditedOp s op supi rg = 0 := by
  cases op <;> simp [chargedUsages] at h <;> rfl

/-! ### across outages -/

/-- an operation that does not reach credit control moves the money of (supi, rg) by exactly the credit -/
theorem C01_uncharged (guard : SplitGuard) (s : State) (op : Op) (hc : chargedUsages s op = none)
    (supi : Bytes) (rg : Int) :
    total (step guard s op).1 supi rg = (total s supi rg).map (fun m => m + creditedOp s op supi rg) := by
  obtain ⟨hres, hbal⟩ := uncharged_step (guard := guard) hc
  unfold total moneyOf
  rw [hres, hbal]
  cases hb : balOf s.accts supi (u32 rg) with
  | none => rfl
  | some b =>
    have : creditedOp s op supi rg = creditAmt op supi (u32 rg) := by
      cases op with
      | credit a b' c =>
        simp only [creditedOp, creditAmt]
        split
        · rename_i h; obtain ⟨rfl, rfl⟩ := h; rw [hb]
        · rfl
      | _ => rfl
    simp only [Option.map_some, this, Option.some.injEq]
    omega

/-- One operation, whatever can be reached: the (balance + reservation) of every subscriber and rating group
    moves by exactly the money credited minus the money the operation booked. -/
theorem C01_outage_step (guard : SplitGuard) (s : State) (op : Op) (hok : opOKx s op = true)
    (supi : Bytes) (rg : Int) (hrg : int32 rg) :
    total (step guard s op).1 supi rg =
      (total s supi rg).map (fun m => m + creditedOp s op supi rg - accountedOp s op supi rg) := by
  rcases opOKx_cases hok with hc | ⟨supi', trigs, groups, us, hc, hok⟩
  · have hr0 : accountedOp s op supi rg = 0 := by unfold accountedOp; simp [hc]
    rw [C01_uncharged guard s op hc, hr0]
    simp only [Int.sub_zero]
  · obtain ⟨hx, hgo, hgs⟩ := charged_step (guard := guard) hc
    -- `ccX` (the store as it really is, the rating groups) is what the operation leaves
    obtain ⟨m, f, _⟩ := ccX_spec hok hx
    unfold accountedOp
    simp only [hc, creditedOp_charged hc, Int.add_zero]
    by_cases hs : supi' = supi
    · subst hs
      unfold total
      rw [if_pos rfl, m rg hrg, hgs]
    · have hne : supi ≠ supi' := fun h => hs h.symm
      unfold total moneyOf
      rw [if_neg hs, f _ _ hne, hgo _ hne]
      simp only [Int.sub_zero, Option.map_id']

theorem accountedList_nonneg (a f : Bool) (tariffs : List Rating.Tariff) (supi : Bytes) (trigs : List Nat) (rg : Int)
    (us : List Usage) : ∀ (accts : Abmf.Store) (groups : List (Int × RgState)),
    0 ≤ accountedList a f tariffs supi trigs rg accts groups us := by
  induction us with
  | nil => intro _ _; simp [accountedList]
  | cons u r ih =>
    intro accts groups
    simp only [accountedList]
    have := ih (acctsNext a f tariffs supi trigs accts groups u)
      (usageStep (seenEnv a f accts tariffs) supi trigs groups u).2.1
    split <;> omega

/-- No operation creates credit, whatever can be reached: balance + reservation never exceeds what it was plus
    the money credited. -/
theorem C01_outage_no_credit_created (guard : SplitGuard) (s : State) (op : Op) (hok : opOKx s op = true)
    (supi : Bytes) (rg : Int) (hrg : int32 rg) (m m' : Int)
    (h : total s supi rg = some m) (h' : total (step guard s op).1 supi rg = some m') :
    m' ≤ m + creditedOp s op supi rg := by
  rw [C01_outage_step guard s op hok supi rg hrg, h] at h'
  simp only [Option.map_some, Option.some.injEq] at h'
  have : 0 ≤ accountedOp s op supi rg := by
    unfold accountedOp
    split
    · split
      · exact accountedList_nonneg _ _ _ _ _ _ _ _ _
      · omega
    · omega
  omega

/-- a history: operations and changes of what can be reached -/
inductive Ev
  | op (o : Op)
  | reach (abmfUp rfUp : Bool)

def stepEv (guard : SplitGuard) (s : State) : Ev → State
  | .op o => (step guard s o).1
  | .reach a f => setReach s a f

def runEv (guard : SplitGuard) (s : State) : List Ev → State
  | [] => s
  | e :: r => runEv guard (stepEv guard s e) r

/-- products fit and every server that is reached knows the subscriber, along a history -/
def runOKx (guard : SplitGuard) : State → List Ev → Bool
  | _, [] => true
  | s, .op o :: r => opOKx s o && runOKx guard (step guard s o).1 r
  | s, .reach a f :: r => runOKx guard (setReach s a f) r

/-- Σ credits − Σ booked along a history, for (supi, rg) -/
def netRunX (guard : SplitGuard) (supi : Bytes) (rg : Int) : State → List Ev → Int
  | _, [] => 0
  | s, .op o :: r => creditedOp s o supi rg - accountedOp s o supi rg + netRunX guard supi rg (step guard s o).1 r
  | s, .reach a f :: r => netRunX guard supi rg (setReach s a f) r

/-- C01 across outages: after every history of operations and outages of either server (any length, any
    interleaving), balance + held reservation = initial + credits − booked usage. -/
theorem C01_outage (guard : SplitGuard) (supi : Bytes) (rg : Int) (hrg : int32 rg) (evs : List Ev) :
    ∀ s : State, runOKx guard s evs = true →
      total (runEv guard s evs) supi rg = (total s supi rg).map (fun m => m + netRunX guard supi rg s evs) := by
  induction evs with
  | nil => intro s _; simp only [runEv, netRunX, Int.add_zero, Option.map_id']
  | cons e r ih =>
    intro s hok
    cases e with
    | op o =>
      simp only [runOKx, Bool.and_eq_true] at hok
      simp only [runEv, stepEv, netRunX]
      rw [ih _ hok.2, C01_outage_step guard s o hok.1 supi rg hrg]
      exact Option.map_map_eq fun m => by omega
    | reach a f =>
      simp only [runOKx] at hok
      simp only [runEv, stepEv, netRunX]
      rw [ih _ hok]
      rfl

/-- with both servers reachable the booked money is the rated usage: `C01_outage_step` is then `C01_step` -/
theorem C01_booked_eq_rated (s : State) (op : Op) (hup : s.abmfUp = true ∧ s.rfUp = true) (hok : opOKx s op = true)
    (supi : Bytes) (rg : Int) : accountedOp s op supi rg = ratedOp s op supi rg := by
  unfold accountedOp ratedOp
  rcases opOKx_cases hok with hc | ⟨supi', trigs, groups, us, hc, hok⟩
  · rw [hc]
  · simp only [hc, hup.1, hup.2] at hok ⊢
    split
    · rename_i hs; subst hs; exact accountedList_up hok
    · rfl

/-! ### both servers reachable -/

/-- One operation: the (balance + reservation) of every subscriber and rating group moves by exactly
    the money credited minus the rated online usage of that operation. -/
theorem C01_step (guard : SplitGuard) (s : State) (op : Op) (hok : opOKb s op = true)
    (supi : Bytes) (rg : Int) (hrg : int32 rg) :
    total (step guard s op).1 supi rg =
      (total s supi rg).map (fun m => m + creditedOp s op supi rg - ratedOp s op supi rg) := by
  -- inside C01's quantifier (both servers reachable) the general side conditions hold, and what is booked is what is rated
  cases hc : chargedUsages s op with
  | none =>
    rw [C01_outage_step guard s op (by simp [opOKx, hc]) supi rg hrg]
    simp [accountedOp, ratedOp, hc]
  | some x =>
    obtain ⟨supi', trigs, groups, us⟩ := x
    have hx : opOKx s op = true := by
      simp only [opOKb, opOKx, hc, Bool.and_eq_true] at hok ⊢
      rw [hok.1.1, hok.1.2]; exact ccOKx_up hok.2
    simp only [opOKb, hc, Bool.and_eq_true] at hok
    rw [C01_outage_step guard s op hx supi rg hrg, C01_booked_eq_rated s op hok.1 hx supi rg]

/-- the property's quantifier along a history -/
def runOKb (guard : SplitGuard) : State → List Op → Bool
  | _, [] => true
  | s, op :: r => opOKb s op && runOKb guard (step guard s op).1 r

/-- Σ credits − Σ unit cost × usage along a history, for (supi, rg) -/
def netRun (guard : SplitGuard) (supi : Bytes) (rg : Int) : State → List Op → Int
  | _, [] => 0
  | s, op :: r => creditedOp s op supi rg - ratedOp s op supi rg + netRun guard supi rg (step guard s op).1 r

/-- C01: after every history (any number of subscribers, sessions, rating groups, any mix of
    create/update/release/recharge/credit), balance + held reservation = initial + credits −
    unit cost × reported online usage, for every subscriber and rating group. No bound on the history. -/
theorem C01 (guard : SplitGuard) (supi : Bytes) (rg : Int) (hrg : int32 rg) (ops : List Op) :
    ∀ s : State, runOKb guard s ops = true →
      total (run guard s ops) supi rg = (total s supi rg).map (fun m => m + netRun guard supi rg s ops) := by
  induction ops with
  | nil => intro s _; simp only [run, netRun, Int.add_zero, Option.map_id']
  | cons op r ih =>
    intro s hok
    simp only [runOKb, Bool.and_eq_true] at hok
    simp only [run, netRun]
    rw [ih _ hok.2, C01_step guard s op hok.1 supi rg hrg]
    exact Option.map_map_eq fun m => by omega

/-- Corollary (refund is exact): in debit mode, once the final usage is rated, the reservation is
    returned to the account except for exactly the price of that usage, and nothing stays reserved. -/
theorem C01_refund_exact {e : Env} {supi : Bytes} {u : Usage} {st : RgState} {b : Int} {s : Bytes}
    (ok : UsageOK e supi u st b s) :
    balOf (debitBranch e supi u st (totalUsed u.cs)).accts supi (u32 u.rg) =
      some (b + st.reserved - ((totalUsed u.cs * costOf s : Nat) : Int)) ∧
    (debitBranch e supi u st (totalUsed u.cs)).st.reserved = 0 :=
  ⟨(debit_ok ok).1.own, (debit_ok ok).2.1⟩

/-! ### only ONLINE_CHARGING containers are rated -/

/-- containers whose quota-management indicator is absent, OFFLINE_CHARGING or QUOTA_MANAGEMENT_SUSPENDED add
    nothing to the usage that is rated, wherever they sit among online containers -/
theorem C01_only_online_counted (cs : List Container) : totalUsed cs = totalUsed (cs.filter isOnline) := by
  induction cs with
  | nil => rfl
  | cons c r ih =>
    cases h : isOnline c <;> simp only [List.filter_cons, h, totalUsed, ih, if_true, if_false, Bool.false_eq_true]

theorem C01_only_online_rated (tariffs : List Rating.Tariff) (supi : Bytes) (u : Usage) :
    ratedUsage tariffs supi u = ratedUsage tariffs supi { u with cs := u.cs.filter isOnline } := by
  have ha : anyOnline (u.cs.filter isOnline) = anyOnline u.cs := by
    simp only [anyOnline, List.any_filter, Bool.and_self]
  unfold ratedUsage
  simp only [ha, ← C01_only_online_counted]

end Chf.Props.C01
