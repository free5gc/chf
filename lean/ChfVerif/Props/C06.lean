import ChfVerif.Lemmas.ChargingStep
/-
  C06 — grants never exceed what the subscriber's money buys; no overdraft.

  Ghost state: the *ledger* of last granted volumes per (subscriber, rating group) — the CHF keeps
  quota per subscriber and rating group, so that is the granularity at which "the consumer never
  reports more than it was last granted" is stated (`opCompliantB`).  Invariant `Safe`:
    * no account balance is negative,
    * every grant on the ledger is backed: lastGrant × unit cost ≤ reservation held.
  `C06` : Safe is preserved along every compliant history inside the quantifier ⇒ no balance ever negative.
  `C06_grant_*` : in reserve mode the grant is ≤ the request, is backed by the reservation, equals the
  request when no final-unit indication is returned, and equals ⌊(balance + unconsumed reservation) / unit cost⌋
  together with a final-unit indication exactly when that money buys less than requested.
-/
namespace Chf.Props.C06
open Chf Chf.Charging

def Safe (s : State) (Ls : Ledgers) : Prop :=
  NonNeg s.accts ∧ ∀ supi, Backed s.tariffs supi (groupsOf s supi) (ledgerOf Ls supi)

/-- One operation preserves `Safe`. -/
theorem C06_step (guard : SplitGuard) (s : State) (Ls : Ledgers) (op : Op)
    (hS : Safe s Ls) (hok : opOKb s op = true) (hcomp : opCompliantB s Ls op = true) :
    Safe (step guard s op).1 (ledgersStep s Ls op) := by
  obtain ⟨hN, hB⟩ := hS
  unfold opOKb at hok
  unfold opCompliantB at hcomp
  unfold ledgersStep
  cases hc : chargedUsages s op with
  | some x =>
    obtain ⟨supi', trigs, groups, us⟩ := x
    simp only [hc, Bool.and_eq_true] at hok hcomp ⊢
    obtain ⟨⟨hau, hru⟩, hok⟩ := hok
    -- `ccX` (the account store, the rating groups) is what the operation leaves
    obtain ⟨hx, hgo, hgs⟩ := charged_step (guard := guard) hc
    simp only [seenAccts, seenTariffs, hau, hru, if_true] at hcomp hx ⊢
    obtain ⟨b1, n1⟩ := (ccX_spec (ccOKx_up hok) hx).2.2.2 rfl rfl (ledgerOf Ls supi') hcomp (hgs ▸ hB supi') hN
    refine ⟨n1, fun supi => ?_⟩
    rw [(step_const guard s op).1, ledgerOf_setLedger]
    by_cases hs : supi = supi'
    · rw [hs, if_pos rfl]; exact b1
    · rw [hgo _ hs, if_neg hs]; exact hB supi
  | none =>
    simp only [hc] at hcomp ⊢
    refine ⟨uncharged_nonneg hc (fun a b c hop => ?_) hN, ?_⟩
    · subst hop; simpa using hcomp
    · intro supi rg s' hrg hs'
      rw [(step_const guard s op).1] at hs'
      rw [(uncharged_step (guard := guard) hc).1]
      exact hB supi rg s' hrg hs'

/-- compliance and ledgers along a history -/
def runCompliantB (guard : SplitGuard) : State → Ledgers → List Op → Bool
  | _, _, [] => true
  | s, Ls, op :: r => opCompliantB s Ls op && runCompliantB guard (step guard s op).1 (ledgersStep s Ls op) r

def runOKb (guard : SplitGuard) : State → List Op → Bool
  | _, [] => true
  | s, op :: r => opOKb s op && runOKb guard (step guard s op).1 r

def runLedgers (guard : SplitGuard) : State → Ledgers → List Op → Ledgers
  | _, Ls, [] => Ls
  | s, Ls, op :: r => runLedgers guard (step guard s op).1 (ledgersStep s Ls op) r

/-- C06 (no overdraft): along every history of a compliant consumer — any length, any mix of subscribers,
    sessions, rating groups, balances, tariffs and request sizes inside the quantifier — `Safe` is preserved;
    in particular no account balance is ever negative. -/
theorem C06 (guard : SplitGuard) (ops : List Op) : ∀ (s : State) (Ls : Ledgers),
    Safe s Ls → runOKb guard s ops = true → runCompliantB guard s Ls ops = true →
    Safe (run guard s ops) (runLedgers guard s Ls ops) := by
  induction ops with
  | nil => intro s Ls h _ _; exact h
  | cons op r ih =>
    intro s Ls hS hok hc
    simp only [runOKb, runCompliantB, Bool.and_eq_true] at hok hc
    simp only [run, runLedgers]
    exact ih _ _ (C06_step guard s Ls op hS hok.1 hc.1) hok.2 hc.2

theorem C06_never_negative (guard : SplitGuard) (ops : List Op) (s : State) (Ls : Ledgers)
    (hS : Safe s Ls) (hok : runOKb guard s ops = true) (hc : runCompliantB guard s Ls ops = true)
    (supi : Bytes) (rg : Nat) (b : Int) (hb : balOf (run guard s ops).accts supi rg = some b) : 0 ≤ b :=
  (C06 guard ops s Ls hS hok hc).1 supi rg b hb

/-- a world with no subscriber yet and no overdrawn account is `Safe` -/
theorem Safe_init (accts : Abmf.Store) (tariffs : List Rating.Tariff) (hN : NonNeg accts) :
    Safe { accts := accts, tariffs := tariffs } [] := by
  refine ⟨hN, ?_⟩
  intro supi rg s _ _
  simp [groupsOf, findUe, resv, getRg, ledgerOf, lastGrant]

/-! ### the grant of one reserve-mode usage -/

/-- the grant is at most the requested volume and is backed by the reservation; the balance stays ≥ 0 -/
theorem C06_grant_backed {e : Env} {supi : Bytes} {u : Usage} {st : RgState} {b : Int} {s : Bytes}
    (ok : UsageOK e supi u st b s) (hb : 0 ≤ b) (hcov : ((totalUsed u.cs * costOf s : Nat) : Int) ≤ st.reserved) :
    ∃ g f b', (reserveBranch e supi u st (totalUsed u.cs)).mui = some { rg := u.rg, granted := g, fui := f } ∧
      g ≤ reqVolOf u ∧
      ((g * costOf s : Nat) : Int) ≤ (reserveBranch e supi u st (totalUsed u.cs)).st.reserved ∧
      balOf (reserveBranch e supi u st (totalUsed u.cs)).accts supi (u32 u.rg) = some b' ∧ 0 ≤ b' := by
  obtain ⟨hbal, hr, hm⟩ := reserve_ok ok
  obtain ⟨_, hb', hbacked, hle⟩ := reserveSpec_safe b st.reserved (totalUsed u.cs) (reqVolOf u) (costOf s)
  exact ⟨_, _, _, hm, hle, hr ▸ hbacked hcov, hbal, hb' hb⟩

/-- final-unit indication ⇔ balance + unconsumed reservation buys less than requested; then the grant is
    exactly what that money buys, otherwise it is the full request -/
theorem C06_grant_limited {e : Env} {supi : Bytes} {u : Usage} {st : RgState} {b : Int} {s : Bytes}
    (ok : UsageOK e supi u st b s) (hb : 0 ≤ b) (hcov : ((totalUsed u.cs * costOf s : Nat) : Int) ≤ st.reserved)
    (hc : 0 < costOf s) :
    ∃ g f, (reserveBranch e supi u st (totalUsed u.cs)).mui = some { rg := u.rg, granted := g, fui := f } ∧
      (f = true ↔ b + (st.reserved - ((totalUsed u.cs * costOf s : Nat) : Int)) < ((reqVolOf u * costOf s : Nat) : Int)) ∧
      (f = true → g = (b + (st.reserved - ((totalUsed u.cs * costOf s : Nat) : Int))).toNat / costOf s) ∧
      (f = false → g = reqVolOf u) :=
  have h := reserveSpec_grant b st.reserved (totalUsed u.cs) (reqVolOf u) (costOf s)
  ⟨_, _, (reserve_ok ok).2.2, h.1 hb, h.2.1 hb hcov, h.2.2 hc⟩

/-- debit mode never grants units -/
theorem C06_debit_grants_nothing {e : Env} {supi : Bytes} {u : Usage} {st : RgState} {b : Int} {s : Bytes}
    (ok : UsageOK e supi u st b s) :
    (debitBranch e supi u st (totalUsed u.cs)).mui = some { rg := u.rg, granted := 0, fui := false } :=
  (debit_ok ok).2.2

/-! ### while a server is unreachable -/

/-- No overdraft across outages: while the account-balance server or the rating server (or both) cannot be
    reached, no operation makes an account balance negative — whatever the consumer reports (the only account
    request that still succeeds is a reservation, which the server limits to the balance; refunds and final
    debits need both servers).  An external credit must not take money away. -/
theorem C06_outage_never_negative_step (guard : SplitGuard) (s : State) (op : Op)
    (hdown : ¬ (s.abmfUp = true ∧ s.rfUp = true)) (hok : opOKx s op = true)
    (hcr : ∀ a b c, op = .credit a b c → 0 ≤ c) (hN : NonNeg s.accts) :
    NonNeg (step guard s op).1.accts := by
  rcases opOKx_cases hok with hc | ⟨supi', trigs, groups, us, hc, hok⟩
  · exact uncharged_nonneg hc hcr hN
  · exact (ccX_spec hok (charged_step (guard := guard) hc).1).2.2.1 hdown hN

/-- what the seeded "roll back" would break, stated for the model: with the account-balance server unreachable a
    reserve-mode report is still taken off the reservation in full (so a later grant cannot be backed by money
    that is already consumed) -/
theorem C06_outage_usage_still_consumed (tariffs : List Rating.Tariff) (supi : Bytes) (u : Usage) (st : RgState)
    (used : Nat) (hfit : used * getUnitCost { accts := [], tariffs := tariffs } supi u.rg < 4294967296)
    (hr : -2305843009213693952 ≤ st.reserved ∧ st.reserved ≤ 2305843009213693952) :
    (reserveBranch { accts := [], tariffs := tariffs } supi u st used).st.reserved =
      st.reserved - ((used * getUnitCost { accts := [], tariffs := tariffs } supi u.rg : Nat) : Int) :=
  (reserve_unanswered hfit hr fun _ _ => rfl).2

end Chf.Props.C06
