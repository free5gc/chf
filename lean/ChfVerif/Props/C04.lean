import ChfVerif.Lemmas.BerEncode
import ChfVerif.Lemmas.BerInt
import ChfVerif.Gen.Schema
import ChfVerif.Lemmas.X690WellFormed
/-
  C04 — the BER encoder's output is that of an independent X.690 encoder, and marshalling never panics.

  `Model/Ber.lean: marshal` mirrors cdr/asn/ber_marshal.go (makeField, appendTagAndLen, int64Encoder,
  bitStringEncoder) routine by routine, including the uint64 arithmetic of appendTagAndLen.
  `Spec/X690.lean: encode` is written from the text of X.690 and shares no encoding routine with it.
  The theorems are for every type description, every field-parameter set and every value, with no bound on
  lengths, nesting, tag numbers (below 2^64, the codec's uint64) or integer magnitude (int64).

  The well-formedness clauses of the statement (minimal INTEGER contents, BOOLEAN 00/FF, BIT STRING unused
  bits, class/constructed bits, minimal tag-number and length octets, children summing to the parent's
  length) are what the independent walker `X690.wellFormed` checks; `C04_wellformed` proves that every output
  of the encoder is accepted by it (via `encode_wf_all`: every output of the reference encoder is one
  well-formed element), for values whose integers are int64, whose octet-less BIT STRINGs
  have bit length 0 mod 8, and types whose character-string tags are not those of BOOLEAN/INTEGER/BIT STRING/
  NULL/ENUMERATED (`strOK`, checked for the whole regenerated schema by decide).

  Each of `marshal_eq_encode_all`, `marshal_no_panic`, `marshal_agree` (Lemmas/BerEncode.lean) and `encode_wf_all`
  is one run of `shape_induct` (Lemmas/BerShape.lean) over the shapes of (type, value), stated for values, SEQUENCE OF
  elements, members and CHOICE alternatives at once; the theorems here are their first components.
-/
namespace Chf.Props.C04
open Chf Chf.Ber Chf.X690

/-- every one of the regenerated CDR schema types has only nil-able OPTIONAL members (so reflect's IsNil
    cannot panic) and only tag numbers that fit the codec's uint64 -/
theorem schema_ok : Gen.schema.all (fun e => optNilable e.2 && tagsOK e.2) = true := by decide +kernel

/-- C04 (bytes): whatever the encoder returns is exactly the reference encoding. -/
theorem C04 (t : Ty) (p : Params) (v : Val) (b : Bytes)
    (ht : tagsOK t = true) (hp : paramsOK p = true) (hv : valOK v = true)
    (hl : b.length < 18446744073709551616)
    (hm : marshal t p v = .ok b) : encode t p v = some b :=
  marshal_eq_encode_all.1 t p v ht hp hv b hm hl

/-- C04 (totality): marshalling a value of a type whose OPTIONAL members are nil-able returns bytes or an
    error; it never panics. -/
theorem C04_no_panic (t : Ty) (p : Params) (v : Val) (ht : optNilable t = true) : marshal t p v ≠ .panic :=
  marshal_no_panic.1 t p v ht

/-- both, for every CDR schema type of the working tree -/
theorem C04_schema (name : String) (t : Ty) (hmem : (name, t) ∈ Gen.schema) (p : Params) (v : Val)
    (hp : paramsOK p = true) (hv : valOK v = true) :
    marshal t p v ≠ .panic ∧
    ∀ b, b.length < 18446744073709551616 → marshal t p v = .ok b → encode t p v = some b := by
  have h := List.all_eq_true.mp schema_ok (name, t) hmem
  simp only [Bool.and_eq_true] at h
  exact ⟨C04_no_panic t p v h.1, fun b hl hm => C04 t p v b h.2 hp hv hl hm⟩

/-- C04 (well-formedness): whatever the encoder returns is one well-formed definite-length BER element -/
theorem C04_wellformed (t : Ty) (p : Params) (v : Val) (b : Bytes)
    (ht : tagsOK t = true) (hs : strOK t = true) (hp : paramsOK p = true) (hsp : strParamOK p = true)
    (hv : valOK v = true) (hb : bitsOK v = true) (hl : b.length < 18446744073709551616)
    (hm : marshal t p v = .ok b) : wellFormed b = true := by
  have he := C04 t p v b ht hp hv hl hm
  obtain ⟨_, _, _, _, hwf⟩ := encode_wf_all.1 t p v b ht hs hp hsp hv hb he hl
  exact hwf (b.length + 1) (Nat.le_succ _)

/-- the character-string tags of all regenerated schema types are free of the walker's primitive checks -/
theorem schema_strOK : Gen.schema.all (fun e => strOK e.2) = true := by decide +kernel

/-- INTEGER / ENUMERATED contents are the minimal two's-complement octets -/
theorem C04_integer_minimal (i : Int) (h : -9223372036854775808 ≤ i ∧ i ≤ 9223372036854775807) :
    minimalInt (intBytes i) = true ∧ intBytes i = integerContents i :=
  ⟨minimalInt_intBytes i h, intBytes_eq i h⟩

/-- BOOLEAN contents are one octet, 00 or FF -/
theorem C04_bool (p : Params) (x : Bool) :
    marshal .bool p (.bool x) = .ok (finish p false 1 [if x then 255 else 0]) := (marshal_flat rfl).trans rfl

/-- the BIT STRING unused-bits octet is within 0..7 and zero for byte-aligned lengths -/
theorem C04_bits_unused (n : Nat) : (8 - n % 8) % 8 ≤ 7 ∧ (n % 8 = 0 → (8 - n % 8) % 8 = 0) := by omega

/-- absent OPTIONAL members are omitted -/
theorem C04_optional_omitted (p : Params) (t : Ty) (r : Fields) (vs : Vals)
    (ho : p.optional = true) (hn : nilable t = true) :
    marshalFields (.cons p t r) (.cons .nil vs) = marshalFields r vs :=
  marshalFields_skip ho hn

/-- unsupported constructs are errors, not panics: OBJECT IDENTIFIER, open types, nil pointers -/
theorem C04_oid (p : Params) (v : Val) : marshal .oid p v = .err := marshal_oid
theorem C04_nil_ptr (t : Ty) (p : Params) : marshal (.ptr t) p .nil = .err := marshal_flat rfl

/-! ### "either returns an error or …": which values are errors, and that their position does not matter -/

/-- C04 (errors, exactness): for a type whose OPTIONAL members are nil-able the encoder returns an error exactly when
    the independent X.690 encoder has no encoding for the value (CHOICE without / with an impossible selection, nil where
    a value is needed, OBJECT IDENTIFIER, open type, unsupported kind, value of the wrong shape) — at any depth. -/
theorem C04_error_iff_unencodable (t : Ty) (p : Params) (v : Val) (ht : optNilable t = true) :
    marshal t p v = .err ↔ encode t p v = none := by
  have h := marshal_isOk_eq_encode_isSome t p v ht
  have hnp := C04_no_panic t p v ht
  cases hm : marshal t p v <;> cases he : encode t p v <;> simp_all [Res.isOk]

/-- … and returns octets exactly when it has one -/
theorem C04_ok_iff_encodable (t : Ty) (p : Params) (v : Val) (ht : optNilable t = true) :
    (∃ b, marshal t p v = .ok b) ↔ (encode t p v).isSome = true := by
  have h := marshal_isOk_eq_encode_isSome t p v ht
  cases hm : marshal t p v <;> cases he : encode t p v <;> simp_all [Res.isOk]

/-- C04 (errors, position): a SEQUENCE OF / SET OF is an error exactly when SOME element is — the check is made for every
    element, not only for the last one. -/
theorem C04_list_error_iff (t : Ty) (p : Params) (vs : Vals) (ht : optNilable t = true) :
    marshal (.slice t) p (.list vs) = .err ↔
      vs.any (fun v => (marshal t { p with tagNumber := none } v).isErr) = true := by
  have h := marshalElems_isErr t { p with tagNumber := none } (fun v => marshal_no_panic.1 t _ v ht) vs
  rw [marshal_list]
  cases hm : marshalElems t { p with tagNumber := none } vs <;> simp_all [Res.isErr, Res.map]

/-- an element that cannot be marshalled makes the list an error whatever stands before and BEHIND it -/
theorem C04_bad_element_anywhere (t : Ty) (p : Params) (pre post : Vals) (v : Val) (ht : optNilable t = true)
    (hv : marshal t { p with tagNumber := none } v = .err) :
    marshal (.slice t) p (.list (pre.append (.cons v post))) = .err := by
  have h := (marshalElems_isErr t { p with tagNumber := none } (fun v => marshal_no_panic.1 t _ v ht)
    (pre.append (.cons v post))).2
  rw [Vals.any_append] at h
  simp only [Vals.any, hv, Res.isErr, Bool.true_or, Bool.or_true] at h
  rw [marshal_list, Res.eq_err_of_isErr h]; rfl

/-- a present member that cannot be marshalled makes the SEQUENCE / SET an error, and so does any later one -/
theorem C04_bad_member (p : Params) (t : Ty) (r : Fields) (v : Val) (vs : Vals)
    (hn : (p.optional && !nilable t) = false) (hpres : (p.optional && isNilVal v) = false)
    (hv : marshal t p v = .err) : marshalFields (.cons p t r) (.cons v vs) = .err := by
  rw [marshalFields_cons, hv, if_neg (by simpa using hn), if_neg (by simpa using hpres)]
  split <;> rfl
theorem C04_bad_later_member (p : Params) (t : Ty) (r : Fields) (v : Val) (vs : Vals)
    (ho : optNilableFs (.cons p t r) = true) (hr : marshalFields r vs = .err) :
    marshalFields (.cons p t r) (.cons v vs) = .err := by
  simp only [optNilableFs, Bool.and_eq_true, Bool.or_eq_true, Bool.not_eq_true'] at ho
  have hnp := marshal_no_panic.1 t p v ho.1.2
  rw [marshalFields_cons, hr, if_neg (by intro h; rcases ho.1.1 with h' | h' <;> simp_all)]
  split
  · rfl
  · split
    · rfl
    · cases hm : marshal t p v <;> first | rfl | exact absurd hm hnp

/-- all of it for every CDR schema type of the working tree -/
theorem C04_schema_errors (name : String) (t : Ty) (hmem : (name, t) ∈ Gen.schema) (p : Params) (v : Val) :
    (marshal t p v = .err ↔ encode t p v = none) ∧
    ∀ pre post : Vals, marshal t { p with tagNumber := none } v = .err →
      marshal (.slice t) p (.list (pre.append (.cons v post))) = .err := by
  have h := List.all_eq_true.mp schema_ok (name, t) hmem
  simp only [Bool.and_eq_true] at h
  exact ⟨C04_error_iff_unencodable t p v h.1, fun pre post hv => C04_bad_element_anywhere t p pre post v h.1 hv⟩

/-- the shapes of the seeded region, computed: an unselected CHOICE, a nil pointer and an OBJECT IDENTIFIER in front of a
    good element are errors for the encoder and have no reference encoding -/
example :
    let ch : Ty := .choice (.cons ⟨false, some 0, false, false, false, 0⟩ (.ptr (.int 64)) (.cons ⟨false, some 1, false, false, false, 0⟩ .oid .nil))
    let good : Val := .choice 1 (.cons (.int 5) (.cons .nil .nil))
    marshal (.slice ch) {} (.list (.cons (.choice 0 (.cons .nil (.cons .nil .nil))) (.cons good .nil))) = .err ∧
    marshal (.slice ch) {} (.list (.cons (.choice 2 (.cons .nil (.cons (.bytes [42, 3]) .nil))) (.cons good .nil))) = .err ∧
    marshal (.slice (.ptr ch)) {} (.list (.cons .nil (.cons good .nil))) = .err ∧
    encode (.slice ch) {} (.list (.cons (.choice 0 (.cons .nil (.cons .nil .nil))) (.cons good .nil))) = none := by
  intro ch good
  have h1 := C04_bad_element_anywhere ch {} .nil (.cons good .nil) (.choice 0 (.cons .nil (.cons .nil .nil))) (by decide)
    (marshal_choice.trans (if_pos (.inl (Int.le_refl 0))))
  exact ⟨h1, C04_bad_element_anywhere ch {} .nil (.cons good .nil) _ (by decide)
      (marshal_choice.trans (marshalAlt_succ.trans (marshalAlt_zero.trans (C04_oid ..)))),
    C04_bad_element_anywhere (.ptr ch) {} .nil (.cons good .nil) _ (by decide) (C04_nil_ptr ..),
    (C04_error_iff_unencodable (.slice ch) {} _ (by decide)).mp h1⟩

/-- non-vacuity: a concrete value meets the hypotheses and both sides produce the same bytes
    (INTEGER -129 under an EXPLICIT high tag number 40) -/
example :
    paramsOK ⟨false, some 40, true, false, false, 0⟩ = true ∧ valOK (.int (-129)) = true ∧
    marshal (.int 64) ⟨false, some 40, true, false, false, 0⟩ (.int (-129)) = .ok [191, 40, 4, 2, 2, 255, 127] ∧
    encode (.int 64) ⟨false, some 40, true, false, false, 0⟩ (.int (-129)) = some [191, 40, 4, 2, 2, 255, 127] := by
  refine ⟨by decide, by decide, ?_, ?_⟩
  · exact (marshal_flat rfl).trans (congrArg Res.ok (by decide))
  · rw [encode_flat rfl]; decide

end Chf.Props.C04
