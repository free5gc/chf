import ChfVerif.Model.LockDiscipline
import ChfVerif.Lemmas.LockDiscipline
import ChfVerif.Gen.LockSites
import ChfVerif.Props.C12
import ChfVerif.Lemmas.ChargingRecords
/-
  C11 — no request crashes the service or wedges a subscriber.

  Proved here: the *wedge* half, for every request whatsoever.  `C11_lock_released`: around every `Lock()`
  statement of the request path (regenerated list Gen.lockSites, each of an accepted shape by `decide`), whatever
  the rest of the function does and whichever of its statements panic, the mutex is free when the function is
  left and no second Unlock / Lock happens.  So no request — rejected, failed or panicking — leaves the
  subscriber (or the global sequence lock) held, and a later request is never blocked by an earlier one.

  The *status* half (unacceptable input is answered 4xx, never 5xx / a panic) is proved for the inputs of the
  charging model (C12.C12_status_set, re-exported below) and decided on generated raw requests for the rest
  (members absent / null / mistyped, odd identifiers, all path parameters): partial.
-/
namespace Chf.Props.C11
open Chf.LockDiscipline

/-- every Lock() of the request path has one of the accepted shapes -/
theorem sites_ok : Chf.Gen.lockSites.all LockSite.ok = true := by decide

/-- no request handler waits for the NF consumer (recharge notification) while it holds a subscriber or context
    mutex: a consumer that answers late, never, or by sending a request of its own cannot keep the subscriber
    blocked (regenerated fact `peerWaits`; the run-time side is the `notifyslow` / `notifyreenter` cases) -/
theorem sites_prompt : Chf.Gen.lockSites.all LockSite.prompt = true := by decide

/-- there is something to talk about: the subscriber lock is taken in create, update, release and recharge -/
theorem sites_cover : 4 ≤ Chf.Gen.lockSites.length := by decide

theorem finish_unlock (m : M) (h : m.held = true) (hf : m.fatal = false) (hd : m.deferred = [.unlock]) :
    (finish m).held = false ∧ (finish m).fatal = false := by
  unfold finish; rw [hd]; simp [runDeferred, doUnlock, h, hf]

theorem exec_deferNext (rest : List Stmt) (hr : rest.all plain = true) :
    ∀ (i : Nat) (p : Nat → Bool) (m : M), m.held = true → m.fatal = false → m.deferred = [.unlock] →
      (exec rest i p m).held = false ∧ (exec rest i p m).fatal = false := by
  intro i p m h hf hd
  obtain ⟨m', ⟨h', hf', hd'⟩, e⟩ := exec_rest (P := fun m => m.held = true ∧ m.fatal = false ∧ m.deferred = [.unlock])
    (fun s hs => .inl (List.all_eq_true.1 hr s hs)) i p m ⟨h, hf, hd⟩
  rw [e]; exact finish_unlock m' h' hf' hd'

theorem finish_guarded (m : M) (hinv : m.held = m.flag) (hf : m.fatal = false) (hd : m.deferred = [.guarded]) :
    (finish m).held = false ∧ (finish m).fatal = false := by
  unfold finish; rw [hd]
  cases hfl : m.flag <;> simp [runDeferred, doGuarded, doUnlock, hf, hinv, hfl]

theorem exec_guarded (rest : List Stmt) (hr : rest.all plainOrGuarded = true) :
    ∀ (i : Nat) (p : Nat → Bool) (m : M), m.held = m.flag → m.fatal = false → m.deferred = [.guarded] →
      (exec rest i p m).held = false ∧ (exec rest i p m).fatal = false := by
  intro i p m h hf hd
  obtain ⟨m', ⟨h', hf', hd'⟩, e⟩ := exec_rest (P := fun m => m.held = m.flag ∧ m.fatal = false ∧ m.deferred = [.guarded])
    (fun s hs => by
      have := List.all_eq_true.1 hr s hs
      cases s with
      -- a guarded unlock releases the mutex iff the flag says it is held, and clears the flag
      | guardedUnlock =>
        exact .inr ⟨rfl, fun m ⟨h, hf, hd⟩ => by cases hfl : m.flag <;> simp [doGuarded, doUnlock, h, hf, hd, hfl]⟩
      | safe | risky | ret => exact .inl rfl
      | _ => cases this) i p m ⟨h, hf, hd⟩
  rw [e]; exact finish_guarded m' h' hf' hd'

theorem exec_free (rest : List Stmt) (hr : rest.all plain = true) :
    ∀ (i : Nat) (p : Nat → Bool) (m : M), m.held = false → m.fatal = false → m.deferred = [] →
      (exec rest i p m).held = false ∧ (exec rest i p m).fatal = false := by
  intro i p m h hf hd
  obtain ⟨m', ⟨h', hf', hd'⟩, e⟩ := exec_rest (P := fun m => m.held = false ∧ m.fatal = false ∧ m.deferred = [])
    (fun s hs => .inl (List.all_eq_true.1 hr s hs)) i p m ⟨h, hf, hd⟩
  rw [e]; simp [finish, hd', runDeferred, h', hf']

/-- C11 (no wedge): for a lock site of an accepted shape, any rest of the function (without further Lock or
    unguarded Unlock of that mutex — which `LockSite.ok` records) and any choice of panicking statements, the
    mutex is released exactly once. -/
theorem C11_lock_released (s : LockSite) (hs : s.ok = true) (rest : List Stmt) (hr : restOK s.kind rest = true)
    (panics : Nat → Bool) :
    (exec (bodyOf s.kind rest) 0 panics {}).held = false ∧ (exec (bodyOf s.kind rest) 0 panics {}).fatal = false := by
  have hk : s.kind ≤ 2 := by simp [LockSite.ok] at hs; exact hs.1.1.1
  -- the statements in front of `rest` run by evaluation: they leave the mutex held with its unlock deferred (kinds 0
  -- and 1), or free again (kind 2)
  obtain h | h | h : s.kind = 0 ∨ s.kind = 1 ∨ s.kind = 2 := by omega
  all_goals rw [h] at hr ⊢
  · exact exec_deferNext rest hr 2 panics { held := true, deferred := [.unlock] } rfl rfl rfl
  · exact exec_guarded rest hr 4 panics { held := true, flag := true, deferred := [.guarded] } rfl rfl rfl
  · exact exec_free rest hr 4 panics {} rfl rfl rfl

/-- … for every Lock() of the working tree's request path -/
theorem C11 (s : LockSite) (hmem : s ∈ Chf.Gen.lockSites) (rest : List Stmt) (hr : restOK s.kind rest = true)
    (panics : Nat → Bool) :
    (exec (bodyOf s.kind rest) 0 panics {}).held = false ∧ (exec (bodyOf s.kind rest) 0 panics {}).fatal = false :=
  C11_lock_released s (List.all_eq_true.mp sites_ok s hmem) rest hr panics

/-! ### every access to the state a subscriber's requests share is made under the subscriber's mutex -/

/-- regenerated fact (harness/cmd/stateaccess.go, `decide`): the functions that touch subscriber state (session map, records,
    reservations, rating modes, unit costs, request numbers, notification address, the subscriber's Diameter clients) where they do not
    hold the subscriber's mutex themselves are reached from the HTTP handlers only through calls made while it is held -/
theorem state_access_under_lock : stateAccessOK Chf.Gen.fnFacts Chf.Gen.callFacts = true :=
  Chf.Props.C12.C12_state_access_under_lock

/-- there is something to talk about: create, update, release and recharge take the mutex themselves and touch subscriber state
    under it; the credit-control loop touches it relying on its callers -/
theorem state_access_cover :
    4 ≤ (Chf.Gen.fnFacts.filter fun f => f.ownLock && decide (0 < f.held)).length ∧
    1 ≤ (needsLock Chf.Gen.fnFacts Chf.Gen.callFacts).length ∧
    1 ≤ (Chf.Gen.fnFacts.filter FnFact.root).length := by
  have h0 : 1 ≤ (needs0 Chf.Gen.fnFacts).length := by decide
  exact ⟨by decide, Nat.le_trans h0 (needs0_prefix _ _).length_le, by decide⟩

/-- C11 / C09 / C12 (no unsynchronised access): from no HTTP handler is there a chain of calls, none of them made with the
    subscriber's mutex held, to a function that touches subscriber state without holding the mutex itself.  So a look-up in
    the session map cannot run next to a create or a release of the same subscriber (no "concurrent map read and map write"
    crash, no stale record), whatever the requests in flight. -/
theorem C11_no_unguarded_access (r g : FnFact) (hr : r ∈ Chf.Gen.fnFacts) (hg : g ∈ Chf.Gen.fnFacts)
    (hroot : r.root = true) (hrel : g.relies = true) : ¬ UnheldPath Chf.Gen.callFacts r.id g.id :=
  stateAccessOK_sound state_access_under_lock hr hg hroot hrel

/-- what holding the mutex at every access buys (mutual-exclusion model, every scheduler, any number of threads): if every
    thread's program locks before it accesses and unlocks only what it holds, then every access ever made is made by the
    thread that holds the mutex at that moment - two requests never touch the shared state at the same time -/
theorem C11_mutual_exclusion (prog : Nat → List Ev) (hg : ∀ i, guarded false (prog i) = true) (sched : List Nat) :
    ∀ e ∈ (Sys.run { prog := prog } sched).log, e.2 = some e.1 := by
  have hi : Inv { prog := prog } := by intro i; simpa using hg i
  have hl : LogOK { prog := prog } := by intro e he; simp at he
  exact (run_inv sched _ hi hl).2

/-- the discipline is needed: a thread that accesses before it locks (the session look-up moved in front of Lock()) makes an
    access while ANOTHER thread holds the mutex -/
example : (Sys.run { prog := fun i => if i = 0 then [.lock, .acc, .unlock] else [.acc, .lock, .unlock] } [0, 1]).log
    = [(1, some 0)] := by decide

/-- C11 (status, modelled inputs): every request of the charging model's input space — any subscriber
    identifier and consumer name as byte strings, any absent consumer identification, any malformed PLMN id or
    incomplete PDU session information, any usage list, any session reference, any recharging path parameter — is
    answered 2xx or 4xx, never 5xx, and a 4xx answer leaves accounts, reservations, rating modes, session maps and
    records (every lock-protected map) as they were. -/
theorem C11_status_modelled (guard : Chf.Charging.SplitGuard) (s : Chf.Charging.State) (op : Chf.Charging.Op)
    (h : ∀ a b c, op ≠ .credit a b c) :
    (Chf.Charging.step guard s op).2.status ∈ [201, 200, 204, 400, 404] ∧
    ((Chf.Charging.step guard s op).2.status = 400 ∨ (Chf.Charging.step guard s op).2.status = 404 →
      (Chf.Charging.step guard s op).1.accts = s.accts ∧
      ∀ supi, Chf.Charging.ueView (Chf.Charging.step guard s op).1 supi = Chf.Charging.ueView s supi) :=
  ⟨Chf.Props.C12.C12_status_set guard s op h,
   fun h4 => ⟨(Chf.Props.C12.C12_reject_no_money_no_records guard s op h4).1,
              (Chf.Props.C12.C12_reject_no_money_no_records guard s op h4).2.2.2⟩⟩

/-- C11 (no session whose CDR file cannot be written): a create for a SUPI that cannot name the file
    /tmp/<supi>.cdr — a path separator, a NUL octet, more than 251 octets — is refused with 400 and changes
    nothing, so no later update or release can fail while writing that file (the defect repaired in 93bac0b) -/
theorem C11_supi_names_a_file (guard : Chf.Charging.SplitGuard) (s : Chf.Charging.State) (r : Chf.Charging.Req)
    (h : r.supi.contains 47 = true ∨ r.supi.contains 0 = true ∨ 255 < r.supi.length + 4) :
    Chf.Charging.step guard s (.create r) = (s, { status := 400 }) :=
  Chf.Charging.create_rej_of_supi guard s fun ⟨_, h47, h0, hlen, _⟩ => by
    rcases h with h | h | h
    · exact h47 (List.contains_iff_mem.1 h)
    · exact h0 (List.contains_iff_mem.1 h)
    · omega

/-- non-vacuity: "imsi-1/2" is refused, "imsi-12" is not -/
example : Chf.Charging.supiAccepted (Chf.Charging.imsiPrefix ++ [49, 47, 50]) = false ∧
    Chf.Charging.supiAccepted (Chf.Charging.imsiPrefix ++ [49, 50]) = true := by decide

/-- the shape is needed: an explicit Unlock on every error return (the code before 87d5a34) leaves the mutex
    held when a statement before it panics -/
example : (exec [.lock, .risky, .unlock] 0 (fun _ => true) {}).held = true := by decide
/-- non-vacuity: a guarded body whose third statement panics, and one that unlocks early and returns -/
example : restOK 1 [.risky, .guardedUnlock, .risky, .ret] = true ∧
    (exec (bodyOf 1 [.risky, .guardedUnlock, .risky, .ret]) 0 (fun i => i == 6) {}).held = false := by decide

end Chf.Props.C11
