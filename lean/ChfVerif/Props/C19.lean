import ChfVerif.Lemmas.DiamClient
import ChfVerif.Gen.DiamClient
/-
  C19 — late or lost Diameter answers neither cross-talk nor block later requests; and
  C18 (see Props/C18.lean) — connections stay bounded.  Both are invariants of the client machine of
  Model/DiamClient.lean under *every* scheduler: any interleaving of request starts, answer arrivals (of any
  request, any number of times, in any order, arbitrarily late or never), timer expiries and returns.

  The theorems are about a configuration `cfg` with `cfg.good`; `cfg_good` states, by `decide` over the
  regenerated Gen/DiamClient.lean, that both client functions of the working tree have that configuration.
  The witnesses at the end show that each of the facts is needed (they are the defects repaired in
  396fba5 / 93b0ba8).
-/
namespace Chf.Props.C19
open Chf.DiamClient

/-- the working tree's two client functions are of the configuration the theorems are about -/
theorem cfg_good : Chf.Gen.abmfClient.good = true ∧ Chf.Gen.ratingClient.good = true := by decide

theorem inv_init : Inv {} := by
  constructor <;> simp

theorem takeMsg_none (buf : List (Nat × Nat)) (c : Nat) (h : ∀ x ∈ buf, x.1 ≠ c) : takeMsg buf c = none :=
  takeMsg_eq_none h

theorem step_inv (cfg : Cfg) (hg : cfg.good = true) (s : St) (ev : Ev) (h : Inv s) : Inv (step cfg s ev) := by
  have hG := Cfg.good_unpack hg
  cases ev with
  | startSlow => exact inv_startSlow hG h
  | dialDone k => exact inv_dialDone hG h k
  | start =>
    -- a start is a slow start whose dial completes at once
    by_cases hb : s.busy = true
    · rw [step_start hG h.notWedged h.notBlocked h.bufOld, if_pos hb]; exact h
    · rw [← step_startSlow_dialDone cfg s (St.not_busy hb).2.2 h.lateNone]
      exact inv_dialDone hG (inv_startSlow hG h) _
  | dialGiveUp => rw [step_dialGiveUp hG]; exact h
  | staleAnswer j =>
    rw [step_staleAnswer hG]
    split
    · exact { h with }   -- only `stale` changes, and no clause mentions it
    · exact h
  | timeout =>
    rw [step_timeout]
    split
    · exact h.finish ‹_› trivial
    · exact h
  | answer j =>
    rw [step_answer hG]
    split
    next hj =>
      split
      next k hc =>
        rw [if_pos (h.curReg k hc).1.symm, h.conn_eq hj (.inl hc)]
        exact h.finish hc (by simp [outcomeOf, okOutcome])
      next hc =>
        split
        · exact h
        · exact { h with
            bufOld := List.forall_mem_cons.2 ⟨h.regOld, h.bufOld⟩
            bufCur := fun k hk => by simp [hc] at hk
            dialExcl := fun d hd => by simp [(h.dialExcl d hd).2.2.1] at hj }
    next => exact h
  | ret =>
    rw [step_ret hG]
    split
    next k hr =>
      -- the only open connection is the returning request's: the deferred Close leaves none
      have hnil : s.conns.filter (· != k) = [] :=
        List.filter_eq_nil_iff.2 fun j hj => by simp [h.conn_eq hj (.inr hr)]
      exact { h with
        connsOwned := by simp [hnil]
        exclusive := fun _ => rfl
        connsShort := by simp [hnil]
        dialExcl := fun d hd => by simpa [hr] using (h.dialExcl d hd).2.1 }
    next => exact h

theorem run_inv (cfg : Cfg) (hg : cfg.good = true) (evs : List Ev) : ∀ s, Inv s → Inv (run cfg s evs) := by
  induction evs with
  | nil => intro s h; exact h
  | cons e r ih => intro s h; exact ih _ (step_inv cfg hg s e h)

/-- every state the machine can reach, whatever the scheduler does -/
theorem reachable_inv (cfg : Cfg) (hg : cfg.good = true) (evs : List Ev) : Inv (run cfg {} evs) :=
  run_inv cfg hg evs {} inv_init

/-- C19 (no cross-talk): every answer a request acted upon is the answer to that very request -/
theorem C19_no_crosstalk (cfg : Cfg) (hg : cfg.good = true) (evs : List Ev) (k j : Nat) :
    Outcome.foreign k j ∉ (run cfg {} evs).log :=
  (reachable_inv cfg hg evs).logOk _

/-- C19 (no blocking): no handler is ever left blocked and no request is ever stuck behind one … -/
theorem C19_never_wedged (cfg : Cfg) (hg : cfg.good = true) (evs : List Ev) :
    (run cfg {} evs).wedged = false ∧ (run cfg {} evs).blocked = 0 :=
  ⟨(reachable_inv cfg hg evs).notWedged, (reachable_inv cfg hg evs).notBlocked⟩

/-- … so the subscriber's next request always gets going, whatever happened to the earlier ones -/
theorem C19_next_request_starts (cfg : Cfg) (hg : cfg.good = true) (evs : List Ev)
    (hidle : (run cfg {} evs).cur = none ∧ (run cfg {} evs).returning = none ∧ (run cfg {} evs).dialing = none) :
    (step cfg (run cfg {} evs) .start).cur = some (run cfg {} evs).next := by
  have h := reachable_inv cfg hg evs
  rw [step_start (Cfg.good_unpack hg) h.notWedged h.notBlocked h.bufOld, St.busy_false hidle.1 hidle.2.1 hidle.2.2]
  rfl

/-- a waiting request always terminates: the timer is always enabled and ends the wait -/
theorem C19_timeout_ends_wait (cfg : Cfg) (s : St) (k : Nat) (h : s.cur = some k) :
    (step cfg s .timeout).cur = none ∧ (step cfg s .timeout).log = .timeout k :: s.log := by
  rw [step_timeout, h]; exact ⟨rfl, rfl⟩

/-- an answer that arrives after its request has returned is discarded: it changes nothing at all -/
theorem C19_late_answer_discarded (cfg : Cfg) (hg : cfg.good = true) (evs : List Ev) (j : Nat)
    (hidle : (run cfg {} evs).cur = none ∧ (run cfg {} evs).returning = none) :
    step cfg (run cfg {} evs) (.answer j) = run cfg {} evs := by
  simp [step_answer (Cfg.good_unpack hg), (reachable_inv cfg hg evs).idle_conns hidle.1 hidle.2]

/-! ### a message already read when its connection is closed

  Closing a connection does not stop its reader task at once: a message the task had read by then is still handed to
  the subscriber's state machine - which all connections of the subscriber share - and so to the handler registered
  by the subscriber's NEXT request.  Reproduced on the real client functions with answers arriving within microseconds
  of the 5 s timer (`peer sweep`).  The handler therefore has to know the connection it was registered for
  (`connBound`, a regenerated source fact). -/

/-- … with a handler bound to its connection such a message is ignored: nothing but the bookkeeping of closed
    connections changes — in particular no request acts upon it (`log`), nothing is buffered, nobody blocks -/
theorem C19_stale_answer_ignored (cfg : Cfg) (hg : cfg.good = true) (s : St) (j : Nat) :
    (step cfg s (.staleAnswer j)).log = s.log ∧ (step cfg s (.staleAnswer j)).cur = s.cur ∧
    (step cfg s (.staleAnswer j)).buf = s.buf ∧ (step cfg s (.staleAnswer j)).blocked = s.blocked ∧
    (step cfg s (.staleAnswer j)).returning = s.returning := by
  rw [step_staleAnswer (Cfg.good_unpack hg)]
  split <;> simp

/-- the binding is needed: with everything else as in the working tree, a request that timed out leaves a message
    behind that the next request takes for its own answer -/
def unbound : Cfg := { Chf.Gen.ratingClient with connBound := false }

theorem C19_conn_binding_needed :
    (run unbound {} [.start, .timeout, .ret, .start, .staleAnswer 1]).log.head? = some (.foreign 2 1) := by decide

/-- … and with the binding the same schedule ends with the second request served by its own answer -/
example : (run Chf.Gen.ratingClient {} [.start, .timeout, .ret, .start, .staleAnswer 1, .answer 2, .ret]).log
    = [.own 2, .timeout 1] := by decide

/-! ### slow connection set-up

  While a request's connection is being set up its handler is already registered, so an answer read on an *older*
  connection would be put into the new request's channel and taken by it the moment it starts waiting.  With the
  deferred Close no older connection exists (`Inv.dialExcl`: while a request dials, no connection is open), and
  the dial being synchronous the request's own timer starts only when its request has been written. -/

/-- while a request is dialling, an answer to whichever request changes nothing -/
theorem C19_answer_during_setup_discarded (cfg : Cfg) (hg : cfg.good = true) (evs : List Ev) (j : Nat)
    (hd : (run cfg {} evs).dialing.isSome = true) :
    step cfg (run cfg {} evs) (.answer j) = run cfg {} evs := by
  simp [step_answer (Cfg.good_unpack hg), (reachable_inv cfg hg evs).dialing_conns hd]

/-- a synchronous dial cannot be given up: the event changes nothing -/
theorem C19_sync_dial_waits (cfg : Cfg) (hg : cfg.good = true) (s : St) : step cfg s .dialGiveUp = s :=
  step_dialGiveUp (Cfg.good_unpack hg)

/-- when the set-up completes the request waits on its own, empty channel with its own connection open -/
theorem C19_setup_done (cfg : Cfg) (hg : cfg.good = true) (evs : List Ev) (k : Nat)
    (hd : (run cfg {} evs).dialing = some k) :
    (step cfg (run cfg {} evs) (.dialDone k)).cur = some k ∧ (step cfg (run cfg {} evs) (.dialDone k)).conns = [k] := by
  have h := reachable_inv cfg hg evs
  obtain ⟨_, _, e3, _, _, e6⟩ := h.dialExcl k hd
  rw [step_dialDone (Cfg.good_unpack hg) h.lateNone k fun _ => e6, if_pos hd, e3]
  exact ⟨rfl, rfl⟩

/-! ### each fact is needed: the machines of the code before 396fba5 / 93b0ba8 -/

def before : Cfg := ⟨false, false, false, false, 5000, true, true, 0, true, true⟩       -- shared unbuffered channel, connection never closed
def closeOnly : Cfg := ⟨true, false, false, false, 5000, true, true, 0, true, true⟩    -- after 396fba5 only

/-- late answer, nobody waiting: the handler blocks and the next request is stuck for ever -/
example : (run before {} [.start, .timeout, .ret, .answer 1, .start]).wedged = true := by decide
/-- late answer while the next request waits: it is taken as that request's answer -/
example : (run before {} [.start, .timeout, .ret, .start, .answer 1]).log.head? = some (.foreign 2 1) := by decide
/-- closing the connection on return leaves the window between the timer and the return -/
example : (run closeOnly {} [.start, .timeout, .answer 1, .ret, .start]).wedged = true := by decide
/-- an exchange that goes on after its request was reported as timed out (its connection still open) while the next
    request sets its connection up: the old answer lands in the new request's channel and is taken as its answer -/
def outlives : Cfg := { Chf.Gen.abmfClient with closesConn := false }
example : (run outlives {} [.start, .timeout, .ret, .startSlow, .answer 1, .dialDone 2]).log.head? = some (.foreign 2 1) := by
  decide
/-- the same schedule on the working tree's machine: the old connection is closed, the answer is not read -/
example : (run Chf.Gen.abmfClient {} [.start, .timeout, .ret, .startSlow, .answer 1, .dialDone 2, .answer 2, .ret]).log
    = [.own 2, .timeout 1] := by decide
/-- non-vacuity: the good machine on the same schedules -/
example : (run Chf.Gen.abmfClient {} [.start, .timeout, .answer 1, .ret, .start, .answer 1, .answer 2, .ret]).log
    = [.own 2, .timeout 1] := by decide

/-! ### the requests of a subscriber are made one at a time

  The machine lets a request start only when none is in progress: every call of the two client functions is made by
  the charging operation itself, which holds the subscriber lock until it returns.  `calls_serial` states, by
  `decide` over the call sites regenerated from the working tree (Gen/DiamClient.lean: every call of
  SendAccountDebitRequest / SendServiceUsageRequest outside their own packages, with whether it sits - directly or
  through helper functions - in a `go` statement, a deferred call or a function literal), that this is so; it is
  part of `Cfg.good`.  `C19_serial_needed`: a request made in the background breaks the property on the otherwise
  good machine - the answer to the background request is taken by the next request. -/

/-- the extractor saw the call sites (it did not go blind) and none of them is asynchronous -/
theorem calls_serial :
    Chf.Gen.clientCallSites ≠ [] ∧ Chf.Gen.clientCallSites.all (fun c => !c.async) = true ∧
    Chf.Gen.abmfClient.serial = true ∧ Chf.Gen.ratingClient.serial = true := by decide

/-- the machine of the working tree's client function, were one of its calls made in the background -/
def background : Cfg := { Chf.Gen.abmfClient with serial := false }

/-- the fact is needed: the operation returns, its request still waits; the next request of the subscriber is
    given the answer to it -/
theorem C19_serial_needed :
    Outcome.foreign 2 1 ∈ (run background {} [.start, .start, .answer 1]).log := by decide

end Chf.Props.C19
