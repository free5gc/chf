import ChfVerif.Lemmas.ChargingSids
import ChfVerif.Lemmas.LockDiscipline
import ChfVerif.Gen.LockSites
/-
  C10 — charging-session references are unique and keep designating their session.

  A reference is  subscriber id ++ consumer name ++ "-" ++ decimal(sequence number); every accepted
  create takes the next sequence number.  `SidsBelow` (every live reference carries a sequence number
  below the current one) is an invariant of every history, hence a new reference differs from the
  reference of every session of every subscriber that has not been released — whatever the subscriber
  identifiers and consumer names (digits, empty names, one SUPI a prefix of another).
-/
namespace Chf.Props.C10
open Chf Chf.Charging

/-- two references built from different sequence numbers differ, for arbitrary names -/
theorem C10_distinct (supi1 nf1 supi2 nf2 : Bytes) (n1 n2 : Nat) (h : n1 ≠ n2) :
    sessionId supi1 nf1 n1 ≠ sessionId supi2 nf2 n2 :=
  fun he => h (sessionId_seq_injective he)

/-- the adversarial names of the property: "imsi-1"+"a1" vs "imsi-1"+"a" no longer collide -/
example : sessionId [105,109,115,105,45,49] [97,49] 0 ≠ sessionId [105,109,115,105,45,49] [97] 10 :=
  C10_distinct _ _ _ _ 0 10 (by decide)

theorem SidsBelow_init (accts : Abmf.Store) (tariffs : List Rating.Tariff) :
    SidsBelow { accts := accts, tariffs := tariffs } :=
  fun _ hu => nomatch hu

/-- the invariant is preserved by every operation -/
theorem SidsBelow_step (guard : SplitGuard) (s : State) (op : Op) (h : SidsBelow s) :
    SidsBelow (step guard s op).1 :=
  keys_invariant (Q := SidBelow) (fun hnm h => SidBelow_mono h hnm)
    (fun a b n => Or.inr ⟨a, b, n, rfl, Nat.lt_succ_self n⟩) guard s op h

theorem SidsBelow_run (guard : SplitGuard) (ops : List Op) : ∀ s, SidsBelow s → SidsBelow (run guard s ops) :=
  run_invariant guard (SidsBelow_step guard) ops

/-- C10 (uniqueness): in every state reachable by any history, the reference returned by an accepted
    session-based create differs from the reference of every live (not released) session of every
    subscriber. -/
theorem C10_fresh (guard : SplitGuard) (s : State) (hinv : SidsBelow s) (r : Req) (nf : Bytes)
    (u : Ue) (hu : u ∈ s.ues) : sessionId r.supi nf s.sessionSeq ∉ keysOf u := by
  intro hmem
  rcases hinv u hu _ hmem with h | ⟨a, b, k, h1, h2⟩
  · exact sessionId_ne_nil _ _ _ h
  · have := sessionId_seq_injective h1
    omega

/-- C10: after every history the reference the next session create would issue, for whatever SUPI and consumer name, is
    the key of no session of any subscriber -/
theorem C10 (guard : SplitGuard) (ops : List Op) (accts : Abmf.Store) (tariffs : List Rating.Tariff)
    (r : Req) (nf : Bytes) (u : Ue)
    (hu : u ∈ (run guard { accts := accts, tariffs := tariffs } ops).ues) :
    sessionId r.supi nf (run guard { accts := accts, tariffs := tariffs } ops).sessionSeq ∉ keysOf u :=
  C10_fresh guard _ (SidsBelow_run guard ops _ (SidsBelow_init accts tariffs)) r nf u hu

/-- the sequence number never decreases, and an accepted session-based create increases it -/
theorem C10_counter_monotone (guard : SplitGuard) (s : State) (op : Op) :
    s.sessionSeq ≤ (step guard s op).1.sessionSeq :=
  step_seq_le guard s op

/-! ### the sequence number of a refused create is not handed back -/

/-- a session-based create that OpenCDR refuses (400) has used up its sequence number: the counter does not go back.
    (Another create may have taken the next number in the meantime; see `C10_give_back_collides`.) -/
theorem C10_refused_create_keeps_number (guard : SplitGuard) (s : State) (r : Req) (nf : Bytes) (hnf : r.nf = some nf)
    (hp : supiAccepted r.supi = true) (hb : r.bad = true) (hone : r.one = false) :
    (step guard s (.create r)).2.status = 400 ∧ (step guard s (.create r)).1.sessionSeq = s.sessionSeq + 1 := by
  show (create s r).2.status = 400 ∧ (create s r).1.sessionSeq = s.sessionSeq + 1
  rw [create_bad s r nf hnf hp hb]
  simp [hone]

/-- regenerated fact (harness/cmd/stateaccess.go, `decide`): the only statements of the request path that change a global
    sequence counter are `atomic.AddUint64(&c, 1)` and `c++` - no decrement, no store, no other delta -/
theorem counters_only_increase :
    Chf.Gen.counterSites.all (fun c => decide (c.kind ≤ 1)) = true ∧
    Chf.Gen.counterSites.any (fun c => c.field == "ChargingSessionSequence") = true := by decide

/-- C10 (creates in flight together): whatever the order in which concurrent creates take their numbers, as long as no
    number is ever handed back, no number - hence no reference - is handed out twice -/
theorem C10_numbers_distinct_every_interleaving (evs : List Chf.LockDiscipline.CEv)
    (h : evs.all (· == .take) = true) : ((({} : Chf.LockDiscipline.CSt).run evs).taken).Nodup :=
  (Chf.LockDiscipline.counter_run evs h {} (by intro n hn; simp at hn) (by simp)).2

/-- … and handing back is what breaks it: create X takes 0, create B (another subscriber) takes 1, X is refused and hands
    its number back, create C takes 1 again - B's and C's references collide -/
theorem C10_give_back_collides :
    ¬ ((({} : Chf.LockDiscipline.CSt).run [.take, .take, .giveBack, .take]).taken).Nodup := by decide

/-! ### the reference can be named: it is one path segment

  "Until released, that reference designates that session": the reference is the last element of the session's resource URI
  (`…/chargingdata/<reference>/update`), and the router splits the decoded path at `/`.  A reference with a path separator in it
  could never be named by a request (the defect repaired in a81e873 `fix: a consumer name with a path separator cannot open a session`:
  `nFName` "a/b" was answered 201 and every update and release of that session 404).  An accepted SUPI has no separator
  (`supiAccepted`), an accepted consumer name has none (such creates are refused; the driver hands them to the model as requests
  without consumer identification), and neither `-` nor a decimal digit is one. -/

theorem decimalFuel_no_slash (f n : Nat) : (47 : Nat) ∉ decimalFuel f n := fun h => by
  have := decimalFuel_digits f n 47 h; omega

theorem C10_reference_is_one_path_segment (supi nf : Bytes) (n : Nat) (hs : (47 : Nat) ∉ supi) (hn : (47 : Nat) ∉ nf) :
    (47 : Nat) ∉ sessionId supi nf n := by
  unfold sessionId decimal
  simp only [List.mem_append, List.mem_singleton, not_or]
  exact ⟨⟨⟨hs, hn⟩, by decide⟩, decimalFuel_no_slash _ _⟩

/-- … in particular for every SUPI the CHF accepts -/
theorem C10_accepted_supi_has_no_separator (supi : Bytes) (h : supiAccepted supi = true) : (47 : Nat) ∉ supi :=
  ((supiAccepted_iff supi).1 h).2.1

/-! ### … and it can be handed to the consumer: no control character

  The reference travels in the `Location` header of the 201 answer. A header value with a control character is dropped by the
  HTTP/2 transport (the consumer gets a 201 without any reference) and mangled or rejected by HTTP/1.1 clients: a session whose
  SUPI or consumer name contains one could never be named (`nFName` "smf\n1" was answered 201). Such creates are refused. -/

theorem decimalFuel_no_control (f n : Nat) : (decimalFuel f n).any isControl = false := by
  rw [List.any_eq_false]
  intro x hx
  have := decimalFuel_digits f n x hx
  simp only [isControl, Bool.or_eq_true, decide_eq_true_eq, beq_iff_eq]
  omega

theorem C10_reference_has_no_control_character (supi nf : Bytes) (n : Nat) (hs : supi.any isControl = false)
    (hn : nf.any isControl = false) : (sessionId supi nf n).any isControl = false := by
  unfold sessionId decimal
  rw [List.any_append, List.any_append, List.any_append, hs, hn, decimalFuel_no_control]
  decide

/-- a SUPI with a control character is refused (400, nothing changes) -/
theorem C10_supi_with_control_character_refused (guard : SplitGuard) (s : State) (r : Req) (h : r.supi.any isControl = true) :
    step guard s (.create r) = (s, { status := 400 }) :=
  create_rej_of_supi guard s fun ⟨_, _, _, _, hc⟩ => by rw [hc] at h; cases h

theorem C10_accepted_supi_has_no_control_character (supi : Bytes) (h : supiAccepted supi = true) :
    supi.any isControl = false :=
  ((supiAccepted_iff supi).1 h).2.2.2.2

end Chf.Props.C10
