import ChfVerif.Lemmas.ChargingShape
import ChfVerif.Lemmas.ChargingSids
import ChfVerif.Lemmas.ChargingRecords
import ChfVerif.Lemmas.LockDiscipline
import ChfVerif.Gen.LockSites
/-
  C12 — charging API contract: 201 + Location / 200 / 204; rejections (4xx) have no effect;
  recharge of a known subscriber: 204 and exactly one notification naming that rating group.
  Statements are about `Charging.step`; the HTTP rendering (Location header, JSON body, timestamp)
  is compared on the real gin router by the `chf` stream.
-/
namespace Chf.Props.C12
open Chf Chf.Charging

theorem lookupSid_setSid_same (m : List (Bytes × Nat)) (sid : Bytes) (v : Nat) :
    lookupSid (setSid m sid v) sid = some v := by
  rw [lookupSid_setSid, if_pos rfl]

/-- Every answer of the charging API is one of 201, 200, 204, 400, 404 (credit is not an API call). -/
theorem C12_status_set (guard : SplitGuard) (s : State) (op : Op) (h : ∀ a b c, op ≠ .credit a b c) :
    (step guard s op).2.status ∈ [201, 200, 204, 400, 404] := by
  simp only [List.mem_cons, List.not_mem_nil, or_false]
  rcases step_shape guard s op with i | ⟨_, _, _, _, w⟩
  · rcases i.answer with ⟨h4, _⟩ | ⟨a, b, c, hc⟩
    · omega
    · exact absurd hc (h a b c)
  · rcases w.accepted with h | ⟨_, _, _, _, e⟩
    · omega
    · rw [e]; simp

/-- A rejected request (4xx) has no effect at all: accounts, reservations, rating modes, session map,
    records and sequence numbers are exactly as before - for every request except a create that is refused only by
    the record validation of OpenCDR (malformed PLMN id, incomplete PDU session information; see
    `C12_refused_create` for those). -/
theorem C12_reject_no_effect (guard : SplitGuard) (s : State) (op : Op)
    (h4 : (step guard s op).2.status = 400 ∨ (step guard s op).2.status = 404)
    (hnb : ∀ r, op = .create r → r.bad = false) :
    (step guard s op).1 = s :=
  rejected_same guard s op h4 hnb

/-- Every rejected request whatsoever (4xx) - the creates refused by OpenCDR included - causes no account debit or
    refund, no reservation or rating-mode change, no session-map change and no record change for any subscriber; the
    record numbering is not advanced either. -/
theorem C12_reject_no_money_no_records (guard : SplitGuard) (s : State) (op : Op)
    (h4 : (step guard s op).2.status = 400 ∨ (step guard s op).2.status = 404) :
    (step guard s op).1.accts = s.accts ∧ (step guard s op).1.tariffs = s.tariffs ∧
    (step guard s op).1.localSeq = s.localSeq ∧ ∀ supi, ueView (step guard s op).1 supi = ueView s supi :=
  rejected_view guard s op h4

/-- A create that OpenCDR refuses is answered 400; what it leaves behind is exactly: the subscriber context (created
    empty if the subscriber was unknown; left as it was, notification address included, if it was known) and - for a
    session-based create - one sequence number used up.  The number is deliberately not handed back: see
    `C10_refused_create_keeps_number`. -/
theorem C12_refused_create (guard : SplitGuard) (s : State) (r : Req) (nf : Bytes) (hnf : r.nf = some nf)
    (hp : supiAccepted r.supi = true) (hb : r.bad = true) :
    (step guard s (.create r)).2 = { status := 400 } ∧
    (step guard s (.create r)).1 =
      { s with ues := putUe s.ues (ueOr s r),
               sessionSeq := if r.one then s.sessionSeq else s.sessionSeq + 1 } := by
  show (create s r).2 = _ ∧ (create s r).1 = _
  rw [create_bad s r nf hnf hp hb]
  exact ⟨rfl, rfl⟩

/-- … so the context of a KNOWN subscriber is found unchanged after a refused create: the notification address its
    consumer registered is still the one a recharge notifies (the defect repaired in dd83835: the address was
    overwritten before OpenCDR ran) -/
theorem C12_refused_create_keeps_address (guard : SplitGuard) (s : State) (r : Req) (nf : Bytes) (u : Ue)
    (hnf : r.nf = some nf) (hp : supiAccepted r.supi = true) (hb : r.bad = true) (hu : findUe s.ues r.supi = some u) :
    findUe (step guard s (.create r)).1.ues r.supi = some u := by
  rw [(C12_refused_create guard s r nf hnf hp hb).2, show ueOr s r = u from ueOf_of_find hu]
  exact (findUe_putUe ..).trans (if_pos (findUe_supi hu).symm)

/-- An update or release naming an unknown subscriber is answered 400, naming an unknown (or stale, or
    foreign) session reference of a known subscriber 404. -/
theorem C12_unknown_subscriber (guard : SplitGuard) (s : State) (sid : Bytes) (r : Req)
    (h : findUe s.ues r.supi = none) :
    (step guard s (.update sid r)).2.status = 400 ∧ (step guard s (.release sid r)).2.status = 400 := by
  simp [step, update, release, h]

theorem C12_unknown_session (guard : SplitGuard) (s : State) (sid : Bytes) (r : Req) (ue : Ue)
    (h : findUe s.ues r.supi = some ue) (hs : lookupSid ue.cdr sid = none) :
    (step guard s (.update sid r)).2.status = 404 ∧ (step guard s (.release sid r)).2.status = 404 := by
  simp [step, update, release, h, hs]

/-- A session-based create that is accepted: 201, the Location reference is the new session's key in the
    subscriber's session map (so it can be used to address the session), sequence number echoed. -/
theorem C12_create (guard : SplitGuard) (s : State) (r : Req) (nf : Bytes) (hnf : r.nf = some nf)
    (hp : supiAccepted r.supi = true) (hone : r.one = false) (hbad : r.bad = false) :
    (step guard s (.create r)).2.status = 201 ∧
    (step guard s (.create r)).2.loc = some (sessionId r.supi nf s.sessionSeq) ∧
    (step guard s (.create r)).2.seq = some r.seq ∧
    ∃ ue', findUe (step guard s (.create r)).1.ues r.supi = some ue' ∧
      (lookupSid ue'.cdr (sessionId r.supi nf s.sessionSeq)).isSome := by
  obtain ⟨u', e, hsup, _, _, hcdr, _⟩ := create_acc s r nf hnf hp hbad
  rw [hone] at e hcdr
  rw [show step guard s (.create r) = _ from e]
  refine ⟨rfl, rfl, rfl, u', ?_, ?_⟩
  · rw [findUe_putUe, if_pos hsup.symm]
  · rw [hcdr, if_neg Bool.false_ne_true, lookupSid_setSid_same]; rfl

/-- A one-time event that is accepted: 201, sequence number echoed, the reference part of the Location is EMPTY (an event opens
    no session), no sequence number is used up, no money moves, and the record opened for it holds the reported usage. -/
theorem C12_one_time_event (guard : SplitGuard) (s : State) (r : Req) (nf : Bytes) (hnf : r.nf = some nf)
    (hp : supiAccepted r.supi = true) (hone : r.one = true) (hbad : r.bad = false) :
    (step guard s (.create r)).2.status = 201 ∧
    (step guard s (.create r)).2.loc = some [] ∧
    (step guard s (.create r)).2.seq = some r.seq ∧
    (step guard s (.create r)).1.sessionSeq = s.sessionSeq ∧
    (step guard s (.create r)).1.accts = s.accts ∧
    (step guard s (.create r)).1.localSeq = s.localSeq + 1 ∧
    ∃ ue', findUe (step guard s (.create r)).1.ues r.supi = some ue' ∧ ue'.cdr = (ueOr s r).cdr := by
  obtain ⟨u', e, hsup, _, _, hcdr, _⟩ := create_acc s r nf hnf hp hbad
  rw [hone] at e hcdr
  rw [show step guard s (.create r) = _ from e]
  refine ⟨rfl, rfl, rfl, rfl, rfl, rfl, u', ?_, hcdr⟩
  rw [findUe_putUe, if_pos hsup.symm]

/-- The notification address across ACCEPTED creates (sessions and one-time events alike): the subscriber is notified at an address
    afterwards exactly when this create gave one or one was registered before - a create that gives none (an event, a further
    session of another consumer) does not take the registered address away (the defect repaired in ad59108 `fix: a create without a
    notification address leaves the registered one in place`: it was overwritten with the empty address, and the next recharge
    notified nobody). -/
theorem C12_create_keeps_address (guard : SplitGuard) (s : State) (r : Req) (nf : Bytes) (hnf : r.nf = some nf)
    (hp : supiAccepted r.supi = true) (hbad : r.bad = false) :
    ∃ ue', findUe (step guard s (.create r)).1.ues r.supi = some ue' ∧
      ue'.notifyUri = ((ueOr s r).notifyUri || r.uri) := by
  obtain ⟨u', e, hsup, _, hn, _⟩ := create_acc s r nf hnf hp hbad
  refine ⟨u', ?_, hn⟩
  show findUe (create s r).1.ues r.supi = some u'
  rw [e, findUe_putUe, if_pos hsup.symm]

/-- … in particular: registered before, registered after -/
theorem C12_registered_address_survives_create (guard : SplitGuard) (s : State) (r : Req) (nf : Bytes) (u : Ue)
    (hnf : r.nf = some nf) (hp : supiAccepted r.supi = true) (hbad : r.bad = false)
    (hu : findUe s.ues r.supi = some u) (hreg : u.notifyUri = true) :
    ∃ ue', findUe (step guard s (.create r)).1.ues r.supi = some ue' ∧ ue'.notifyUri = true :=
  registered_step guard s (.create r) r.supi u hu hreg

/-- The empty reference designates nothing, in every state any history can reach: an update or release addressed to it
    is never accepted (400 for an unknown subscriber, 404 otherwise) and, by `C12_reject_no_effect`, has no effect - also
    right after a one-time event, whose Location ends in that empty reference (the defect repaired in 02d3fe6: the event's
    record was registered under it). -/
theorem C12_empty_reference_unknown (guard : SplitGuard) (ops : List Op) (accts : Abmf.Store) (tariffs : List Rating.Tariff)
    (r : Req) :
    let s := run guard { accts := accts, tariffs := tariffs } ops
    ((step guard s (.update [] r)).2.status = 400 ∨ (step guard s (.update [] r)).2.status = 404) ∧
    ((step guard s (.release [] r)).2.status = 400 ∨ (step guard s (.release [] r)).2.status = 404) := by
  intro s
  have hinv : NoEmptyKey s := run_invariant guard (NoEmptyKey_step guard) ops _ (fun _ hu => nomatch hu)
  cases hu : findUe s.ues r.supi with
  | none => exact (C12_unknown_subscriber guard s [] r hu).imp .inl .inl
  | some ue =>
    have hl : lookupSid ue.cdr [] = none := lookupSid_none_of_not_key fun hk => hinv ue (mem_of_findUe hu) [] hk rfl
    exact (C12_unknown_session guard s [] r ue hu hl).imp .inr .inr

/-- An accepted update: 200 with the sequence number echoed. -/
theorem C12_update (guard : SplitGuard) (s : State) (sid : Bytes) (r : Req) (ue : Ue) (idx : Nat)
    (h : findUe s.ues r.supi = some ue) (hs : lookupSid ue.cdr sid = some idx) :
    (step guard s (.update sid r)).2.status = 200 ∧ (step guard s (.update sid r)).2.seq = some r.seq := by
  obtain ⟨_, e, _⟩ := update_acc guard s sid r ue idx h hs
  rw [show step guard s (.update sid r) = _ from e]
  exact ⟨rfl, rfl⟩

/-- An accepted release: 204 without body, and the reference is gone afterwards. -/
theorem C12_release (guard : SplitGuard) (s : State) (sid : Bytes) (r : Req) (ue : Ue) (idx : Nat)
    (h : findUe s.ues r.supi = some ue) (hs : lookupSid ue.cdr sid = some idx) :
    (step guard s (.release sid r)).2.status = 204 ∧ (step guard s (.release sid r)).2.muis = [] ∧
    (step guard s (.release sid r)).2.seq = none := by
  obtain ⟨_, e, _⟩ := release_acc s sid r ue idx h hs
  rw [show step guard s (.release sid r) = _ from e]
  exact ⟨rfl, rfl, rfl⟩

/-- A recharge `<ueId>_<rg>` for a known subscriber: 204 and exactly one notification, to the URI that
    subscriber's consumer registered, naming that rating group. -/
theorem C12_recharge (guard : SplitGuard) (s : State) (info ueId rgStr : Bytes) (rg : Int) (ue : Ue)
    (hsp : splitUnderscore info = [ueId, rgStr]) (hrg : parseInt32 rgStr = some rg)
    (hu : findUe s.ues ueId = some ue) (huri : ue.notifyUri = true) :
    (step guard s (.recharge info)).2.status = 204 ∧ (step guard s (.recharge info)).2.notif = [(ue.supi, rg)] := by
  simp [step, recharge, hsp, hrg, hu, huri]

/-- "A request that names an unknown session reference … has no effect", also next to other requests of the subscriber: the
    look-up that decides whether a reference is known, like every other access to subscriber state a handler can reach, is made
    while the subscriber's mutex is held (regenerated tables of harness/cmd/stateaccess.go, `decide`) - so the decision cannot be
    taken on a session map that a create or release is changing, nor be outdated when the request acts on it. -/
theorem C12_state_access_under_lock :
    Chf.LockDiscipline.stateAccessOK Chf.Gen.fnFacts Chf.Gen.callFacts = true := by
  rw [Chf.LockDiscipline.stateAccessOK_eq]; decide +kernel

/-- "… to the notification URI the subscriber's consumer registered", for every history: once a consumer of the subscriber has
    registered an address, the subscriber is known with a registered address after ANY further operations (creates with or
    without an address of their own, refused creates, updates, releases, recharges, credits of any subscriber) - so by
    `C12_recharge` every later recharge of the subscriber is answered 204 with exactly one notification -/
theorem C12_address_stays_registered (guard : SplitGuard) (s : State) (ops : List Op) (supi : Bytes) (u : Ue)
    (hu : findUe s.ues supi = some u) (hreg : u.notifyUri = true) :
    ∃ u', findUe (run guard s ops).ues supi = some u' ∧ u'.notifyUri = true :=
  run_invariant (Inv := fun s => ∃ u, findUe s.ues supi = some u ∧ u.notifyUri = true) guard
    (fun s op ⟨u, hu, hr⟩ => registered_step guard s op supi u hu hr) ops s ⟨u, hu, hreg⟩

/-- … and the recharge that follows such a history -/
theorem C12_recharge_after_any_history (guard : SplitGuard) (s : State) (ops : List Op) (supi rgStr : Bytes) (rg : Int) (u : Ue)
    (hu : findUe s.ues supi = some u) (hreg : u.notifyUri = true)
    (hsp : splitUnderscore (supi ++ [95] ++ rgStr) = [supi, rgStr]) (hrg : parseInt32 rgStr = some rg) :
    (step guard (run guard s ops) (.recharge (supi ++ [95] ++ rgStr))).2.status = 204 ∧
    (step guard (run guard s ops) (.recharge (supi ++ [95] ++ rgStr))).2.notif = [(supi, rg)] := by
  obtain ⟨u', h1, h2⟩ := C12_address_stays_registered guard s ops supi u hu hreg
  have h := C12_recharge guard (run guard s ops) (supi ++ [95] ++ rgStr) supi rgStr rg u' hsp hrg h1 h2
  rw [findUe_supi h1] at h
  exact h

end Chf.Props.C12
