import ChfVerif.Lemmas.TS32297
import ChfVerif.Props.C14
import ChfVerif.Gen.CdrFileFacts
/-
  C15 — the bytes written for a CDR file follow the TS 32.297 clause 6.1 layout: an
  independent reader written from the specification (Spec/TS32297.lean: cursor-based, div/mod
  arithmetic, no definition shared with the encoder model) recovers every field that was
  written, consumes exactly `numCdrs` records and leaves no octet over.
-/
namespace Chf.Props.C15
open Chf Chf.CdrFile

/-- the independent reader recovers the structure from the written bytes -/
theorem C15 (f : File) (hw : f.WF) : TS32297.read (encodeFile f) = some f :=
  TS32297.read_encodeFile f hw

/-- the header occupies 52 octets plus filter, private extension and one octet per release
    identifier equal to 7 (extension octets are present exactly then) -/
theorem C15_header_length (h : FileHeader) (hw : h.WF) :
    (encodeHeader h).length = 52 + h.lenFilter + h.lenExt + extCount h.highRel + extCount h.lowRel := by
  obtain ⟨_, _, _, _, _, _, _, _, _, _, _, hip, _, _, _, hfilter, _, _, hext, _⟩ := hw
  rw [encodeHeader_length h hip, hfilter, hext]

/-- each record is a 4-octet header (5 when its release identifier is 7) followed by exactly
    `cdrLength` payload octets; the file is the header followed by the records -/
theorem C15_file_length (f : File) (hw : f.WF) :
    (encodeFile f).length =
      52 + f.hdr.lenFilter + f.hdr.lenExt + extCount f.hdr.highRel + extCount f.hdr.lowRel +
        cdrsLength f.cdrs := by
  unfold encodeFile
  rw [List.length_append, C15_header_length f.hdr hw.1, encodeCdrs_length]

/-- big-endian length fields at octets 1..8 -/
theorem C15_prefix (f : File) :
    (encodeFile f).take 8 = be32 f.hdr.fileLength ++ be32 f.hdr.headerLength := by
  unfold encodeFile encodeHeader fixedPart
  simp only [List.append_assoc]
  rw [← List.append_assoc (be32 _) (be32 _)]
  exact List.take_left' rfl

/-- high-then-low order of the release-identifier extension octets, directly after the private extension -/
theorem C15_ext_order (h : FileHeader) (hh : h.highRel = 7) (hl : h.lowRel = 7) :
    encodeHeader h = fixedPart h ++ h.filter ++ be16 h.lenExt ++ h.ext ++ [h.highExt, h.lowExt] := by
  simp [encodeHeader, extPart, hh, hl]

/-! ### the file on disk -/

/-- when the destination is opened so that its old content is discarded, the file after `Encoding` is the
    encoding and nothing else — whatever the destination held before -/
theorem C15_on_disk (m : WriteMode) (hm : m.truncates = true) (old : Option Bytes) (f : File) :
    encodingOnto m old f = encodeFile f := by
  simp [encodingOnto, writeOver, hm]

/-- the code at hand opens its destination that way, in one place (regenerated from cdrFile.go) -/
theorem C15_encoding_truncates :
    Chf.Gen.encodingWrites.length = 1 ∧ Chf.Gen.encodingWrite.truncates = true := by decide

/-- C15 for the file as it is on disk: the independent reader recovers the structure from the destination
    file, for every previous content of that file -/
theorem C15_file_on_disk (old : Option Bytes) (f : File) (hw : f.WF) :
    TS32297.read (encodingOnto Chf.Gen.encodingWrite old f) = some f := by
  rw [C15_on_disk _ C15_encoding_truncates.2]
  exact C15 f hw

/-- … and it has exactly the length the layout prescribes -/
theorem C15_disk_length (old : Option Bytes) (f : File) (hw : f.WF) :
    (encodingOnto Chf.Gen.encodingWrite old f).length =
      52 + f.hdr.lenFilter + f.hdr.lenExt + extCount f.hdr.highRel + extCount f.hdr.lowRel +
        cdrsLength f.cdrs := by
  rw [C15_on_disk _ C15_encoding_truncates.2]
  exact C15_file_length f hw

/-- the hypothesis is needed: a destination opened without truncation (and not for appending) keeps the tail of a
    longer previous file, so the file on disk is longer than the layout prescribes and is not the encoding -/
theorem C15_no_truncate_stale (old : Bytes) (f : File) (hlong : (encodeFile f).length < old.length) :
    (encodingOnto ⟨false, false⟩ (some old) f).length = old.length ∧
    encodingOnto ⟨false, false⟩ (some old) f ≠ encodeFile f := by
  have hlen : (encodingOnto ⟨false, false⟩ (some old) f).length = old.length := by
    simp only [encodingOnto, writeOver, Option.getD_some, Bool.false_eq_true, if_false,
      List.length_append, List.length_drop]
    omega
  refine ⟨hlen, ?_⟩
  intro h
  rw [h] at hlen
  omega

/-- appending is no better: the new octets come after the old ones -/
theorem C15_append_stale (old : Bytes) (f : File) (hne : old ≠ []) :
    encodingOnto ⟨false, true⟩ (some old) f ≠ encodeFile f := by
  intro h
  have : (encodingOnto ⟨false, true⟩ (some old) f).length = old.length + (encodeFile f).length := by
    simp [encodingOnto, writeOver]
  rw [h] at this
  have : old.length = 0 := by omega
  exact hne (List.eq_nil_of_length_eq_zero this)

example : TS32297.read (encodeFile C14.sample) = some C14.sample := by decide +kernel

open Chf.CodecState in
/-- the octets written for a well-formed file are read back by the independent reader after ANY history of earlier writes:
    with the regenerated facts about `cdr/cdrFile`'s package-level variables (`C14_codec_globals_frozen`) no earlier call —
    completed or failed — can leave anything behind for the next one -/
theorem C15_history {V : Type} (impl : Store V → File → Bytes × Store V)
    (hr : Respects Gen.cdrFileGlobals impl) (g : Store V) (hcorr : ∀ f, (impl g f).1 = encodeFile f)
    (hist : List File) (f : File) (hw : f.WF) :
    TS32297.read (impl (after impl g hist) f).1 = some f := by
  rw [history_independent C14.C14_codec_globals_frozen hr g hist, hcorr]
  exact C15 f hw

end Chf.Props.C15
