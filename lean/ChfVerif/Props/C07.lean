import ChfVerif.Lemmas.Abmf
import ChfVerif.Spec.AbmfSpec
import ChfVerif.Gen.AbmfServer
/-
  C07 — account-balance server arithmetic.

  For a known subscriber and rating group (an account whose stored quota parses):
  * reservation (DIRECT_DEBITING, INITIAL/UPDATE): grant = min(requested, balance), the balance
    drops by exactly the grant and stays ≥ 0, final-unit indication iff requested > balance;
    an overdrawn (negative) balance grants 0 and is left unchanged;
  * refund raises, termination debit lowers the balance by exactly the stated amount;
  * every answer echoes Session-Id, request type and request number;
  * unknown subscriber / rating group / unparsable quota: no answer, nothing changes;
  * no request touches another account.
  Amounts range over 0 .. 2^63-1 as in the property; the "no int64 overflow" side
  conditions of refund/termination are explicit.
-/
namespace Chf.Props.C07
open Chf Chf.Abmf

theorem handle_known {st : Store} {c : CCR} {q : Quota} {quota : Int}
    (hf : find st (subscriberId c) c.rg = some q) (hp : q.parse = some quota) :
    handleCCR st c =
      (put st (subscriberId c) c.rg (.num (effect quota c).1),
       .answer c.sess c.reqType c.reqNum (effect quota c).2.1 (effect quota c).2.2) :=
  handleCCR_known hf hp

/-- Reservation against a non-negative balance. -/
theorem C07_reserve {st : Store} {c : CCR} {q : Quota} {quota : Int}
    (hf : find st (subscriberId c) c.rg = some q) (hp : q.parse = some quota)
    (ha : c.action = 0) (ht : c.reqType = 1 ∨ c.reqType = 2)
    (hr : c.rsu < 9223372036854775808) (h0 : 0 ≤ quota) (h1 : quota < 9223372036854775808) :
    ∃ g : Nat,
      (handleCCR st c).2 = .answer c.sess c.reqType c.reqNum (some g) (decide (quota < (c.rsu : Int))) ∧
      (g : Int) = min (c.rsu : Int) quota ∧
      find (handleCCR st c).1 (subscriberId c) c.rg = some (.num (quota - g)) ∧
      0 ≤ quota - (g : Int) := by
  rw [handle_known hf hp, effect_reserve ha ht hr ⟨by omega, h1⟩, show max quota 0 = quota by omega]
  have hg : ((min (c.rsu : Int) quota).toNat : Int) = min (c.rsu : Int) quota := Int.toNat_of_nonneg (by omega)
  exact ⟨_, rfl, hg, by rw [hg]; exact find_put_same _ hf, by omega⟩

/-- Reservation against an overdrawn account: nothing granted, balance untouched, final unit. -/
theorem C07_reserve_overdrawn {st : Store} {c : CCR} {q : Quota} {quota : Int}
    (hf : find st (subscriberId c) c.rg = some q) (hp : q.parse = some quota)
    (ha : c.action = 0) (ht : c.reqType = 1 ∨ c.reqType = 2)
    (hr : c.rsu < 9223372036854775808) (h0 : quota < 0) (h1 : -9223372036854775808 ≤ quota) :
    (handleCCR st c).2 = .answer c.sess c.reqType c.reqNum (some 0) true ∧
    find (handleCCR st c).1 (subscriberId c) c.rg = some (.num quota) := by
  rw [handle_known hf hp, effect_reserve ha ht hr ⟨h1, by omega⟩, show min (c.rsu : Int) (max quota 0) = 0 by omega]
  simp [find_put_same _ hf, show quota < (c.rsu : Int) by omega]

/-- Refund raises the balance by exactly the stated amount. -/
theorem C07_refund {st : Store} {c : CCR} {q : Quota} {quota : Int}
    (hf : find st (subscriberId c) c.rg = some q) (hp : q.parse = some quota)
    (ha : c.action = 1) (hr : c.rsu < 9223372036854775808)
    (h0 : -9223372036854775808 ≤ quota) (h1 : quota + c.rsu < 9223372036854775808) :
    find (handleCCR st c).1 (subscriberId c) c.rg = some (.num (quota + c.rsu)) := by
  rw [find_handleCCR hf hp, effect_refund ha hr ⟨by omega, h1⟩]

/-- Termination debit lowers the balance by exactly the stated amount. -/
theorem C07_termination {st : Store} {c : CCR} {q : Quota} {quota : Int}
    (hf : find st (subscriberId c) c.rg = some q) (hp : q.parse = some quota)
    (ha : c.action = 0) (ht : c.reqType = 3) (hu : c.usu < 9223372036854775808)
    (h0 : quota < 9223372036854775808) (h1 : -9223372036854775808 ≤ quota - c.usu) :
    find (handleCCR st c).1 (subscriberId c) c.rg = some (.num (quota - c.usu)) := by
  rw [find_handleCCR hf hp, effect_termination ha ht hu ⟨h1, by omega⟩]

/-- Balance checks, price enquiries and event/unknown request types leave the balance value as it is. -/
theorem C07_no_money_moves {st : Store} {c : CCR} {q : Quota} {quota : Int}
    (hf : find st (subscriberId c) c.rg = some q) (hp : q.parse = some quota)
    (ha : 2 ≤ c.action ∨ (c.action = 0 ∧ c.reqType ≠ 1 ∧ c.reqType ≠ 2 ∧ c.reqType ≠ 3)) :
    find (handleCCR st c).1 (subscriberId c) c.rg = some (.num quota) := by
  rw [find_handleCCR hf hp, effect_other ha]

/-- Every answer echoes the request's Session-Id, request type and request number. -/
theorem C07_echo (st : Store) (c : CCR) :
    (handleCCR st c).2 = .noAnswer ∨
    ∃ g f, (handleCCR st c).2 = .answer c.sess c.reqType c.reqNum g f := by
  unfold handleCCR
  split
  · left; rfl
  · split
    · left; rfl
    · right; exact ⟨_, _, rfl⟩

/-- A known account with a parsable balance is always answered. -/
theorem C07_answers {st : Store} {c : CCR} {q : Quota} {quota : Int}
    (hf : find st (subscriberId c) c.rg = some q) (hp : q.parse = some quota) :
    (handleCCR st c).2 ≠ .noAnswer := by
  rw [handle_known hf hp]; simp

/-- A request for an unknown subscriber or rating group changes nothing (and is not answered). -/
theorem C07_unknown_no_effect {st : Store} {c : CCR} (hf : find st (subscriberId c) c.rg = none) :
    handleCCR st c = (st, .noAnswer) :=
  handleCCR_silent fun q hq => by rw [hf] at hq; cases hq

/-- So does a request on an account whose stored balance text does not parse. -/
theorem C07_unparsable_no_effect {st : Store} {c : CCR} {q : Quota}
    (hf : find st (subscriberId c) c.rg = some q) (hp : q.parse = none) :
    handleCCR st c = (st, .noAnswer) :=
  handleCCR_silent fun q' hq => by rw [hf] at hq; cases hq; exact hp

/-- No request changes the balance of any other account. -/
theorem C07_frame (st : Store) (c : CCR) (ue : Bytes) (rg : Nat)
    (hne : ¬ (ue = subscriberId c ∧ rg = c.rg)) :
    find (handleCCR st c).1 ue rg = find st ue rg := by
  unfold handleCCR
  split
  · rfl
  · split
    · rfl
    · exact find_put_other _ hne

/-! ### Sequences: the running balance is the fold of the exact per-request deltas -/

/-- a request is admissible at balance `b` if its amounts are below 2^63 and the exact result fits int64 -/
def Admissible (b : Int) (c : CCR) : Prop :=
  c.rsu < 9223372036854775808 ∧ c.usu < 9223372036854775808 ∧ InRange b ∧ InRange (b + delta b c)

theorem effect_eq_delta {b : Int} {c : CCR} (h : Admissible b c) : (effect b c).1 = b + delta b c := by
  obtain ⟨hr, hu, hb, hd⟩ := h
  unfold delta at hd ⊢
  by_cases a1 : c.action = 1
  · rw [if_pos a1] at hd ⊢; rw [effect_refund a1 hr hd]
  rw [if_neg a1] at hd ⊢
  by_cases a0 : c.action = 0
  · rw [if_pos a0] at hd ⊢
    by_cases t12 : c.reqType = 1 ∨ c.reqType = 2
    · rw [effect_reserve a0 t12 hr hb, if_pos t12]; exact Int.sub_eq_add_neg
    rw [if_neg t12] at hd ⊢
    by_cases t3 : c.reqType = 3
    · rw [if_pos t3] at hd ⊢
      rw [effect_termination a0 t3 hu (Int.sub_eq_add_neg ▸ hd)]; exact Int.sub_eq_add_neg
    · rw [effect_other (.inr ⟨a0, by omega, by omega, t3⟩), if_neg t3]; exact (Int.add_zero b).symm
  · rw [effect_other (.inl (by omega)), if_neg a0]; exact (Int.add_zero b).symm

/-- balance of one account along a request list, as the property describes it: requests addressed to the
    account move `delta`, all others (and unanswered ones) move nothing -/
def specBalance (ue : Bytes) (rg : Nat) (b : Int) : List CCR → Int
  | [] => b
  | c :: r => if subscriberId c = ue ∧ c.rg = rg then specBalance ue rg (b + delta b c) r
              else specBalance ue rg b r

def AllAdmissible (ue : Bytes) (rg : Nat) (b : Int) : List CCR → Prop
  | [] => True
  | c :: r => if subscriberId c = ue ∧ c.rg = rg then Admissible b c ∧ AllAdmissible ue rg (b + delta b c) r
              else AllAdmissible ue rg b r

/-- After any sequence of requests (any mix of accounts, actions and request types) the stored balance
    of an account is exactly its initial balance plus the prescribed movements of the requests addressed
    to it. Unbounded in the length of the sequence. -/
theorem C07_sequence (ue : Bytes) (rg : Nat) (cs : List CCR) :
    ∀ (st : Store) (q : Quota) (b : Int), find st ue rg = some q → q.parse = some b →
      AllAdmissible ue rg b cs →
      ∃ q', find (run st cs) ue rg = some q' ∧ q'.parse = some (specBalance ue rg b cs) := by
  induction cs with
  | nil => intro st q b hf hp _; exact ⟨q, hf, hp⟩
  | cons c r ih =>
    intro st q b hf hp hadm
    unfold run specBalance
    unfold AllAdmissible at hadm
    by_cases hk : subscriberId c = ue ∧ c.rg = rg
    · rw [if_pos hk] at hadm ⊢
      obtain ⟨rfl, rfl⟩ := hk
      exact ih _ _ _ (effect_eq_delta hadm.1 ▸ find_handleCCR hf hp) rfl hadm.2
    · rw [if_neg hk] at hadm ⊢
      exact ih _ q b (by rwa [C07_frame st c ue rg fun h => hk ⟨h.1.symm, h.2.symm⟩]) hp hadm

/-! ### the step predicate of the check (Spec/AbmfSpec.lean) -/

theorem filter_put (st : Store) (ue : Bytes) (rg : Nat) (q : Quota) :
    (put st ue rg q).filter (fun x => ¬ (x.ue = ue ∧ x.rg = rg)) =
      st.filter (fun x => ¬ (x.ue = ue ∧ x.rg = rg)) := by
  induction st with
  | nil => rfl
  | cons a r ih =>
    unfold put
    by_cases hk : a.ue = ue ∧ a.rg = rg
    · simp [hk]
    · simp only [hk, if_false, List.filter_cons, ih]

theorem admissible_of_B {b : Int} {c : CCR} (h : admissibleB b c = true) : Admissible b c := by
  unfold admissibleB inRangeB at h
  simp only [Bool.and_eq_true, decide_eq_true_eq] at h
  unfold Admissible InRange
  omega

/-- The model satisfies the step predicate that the check evaluates on implementation traces —
    for every store and every request. -/
theorem C07_model_holds (st : Store) (c : CCR) :
    holds st c (handleCCR st c).2 (handleCCR st c).1 = true := by
  unfold holds
  simp only
  cases hf : find st (subscriberId c) c.rg with
  | none => simp [C07_unknown_no_effect hf]
  | some q =>
    cases hp : q.parse with
    | none => simp [hp, C07_unparsable_no_effect hf hp]
    | some b =>
      simp only [hp]
      by_cases hadm : admissibleB b c = true
      · simp only [hadm, if_true]
        have hA := admissible_of_B hadm
        rw [handle_known hf hp]
        simp only [find_put_same _ hf, Quota.parse, effect_eq_delta hA, othersSame, filter_put,
          beq_self_eq_true, Bool.and_true, Bool.true_and]
        by_cases hres : isReserve c = true
        · obtain ⟨ha, ht⟩ : c.action = 0 ∧ (c.reqType = 1 ∨ c.reqType = 2) := by simpa [isReserve] using hres
          have hd : delta b c = -(min (c.rsu : Int) (max b 0)) := by simp [delta, ha, ht]
          simp only [hres, effect_reserve ha ht hA.1 hA.2.2.1, hd, beq_self_eq_true, if_true, Bool.and_self, Bool.true_and,
            forall_const, decide_eq_true_eq]
          omega
        · simp [hres]
      · simp [hadm]

/-! ### Non-vacuity -/

def sampleStore : Store :=
  [{ ue := imsiPrefix ++ [49], rg := 1, quota := .raw [49, 48, 48, 48] },      -- "imsi-1"/1 = "1000"
   { ue := imsiPrefix ++ [50], rg := 7, quota := .raw [45, 50, 48, 48] }]      -- "imsi-2"/7 = "-200"

def sampleCCR : CCR :=
  { sess := [115], reqType := 2, reqNum := 5, action := 0, subType := 1, subData := [49], rg := 1,
    rsu := 1200, usu := 0 }

example : find sampleStore (subscriberId sampleCCR) sampleCCR.rg = some (.raw [49, 48, 48, 48]) := by decide
example : (Quota.raw [49, 48, 48, 48]).parse = some 1000 := by decide
example : (handleCCR sampleStore sampleCCR).2 = .answer [115] 2 5 (some 1000) true := by decide

/-! ### requests for one account arriving on several connections at once

  go-diameter serves every connection in a task of its own, so `handleCCR` runs concurrently with itself.  The theorems
  above are about `handleCCR` as ONE step per request; the regenerated source fact below is what makes the real handler
  such a step for requests of the same account: the store read and the store write happen while a lock taken before
  the read — built from the subscriber and the rating group — is held until the handler returns.  Every interleaving
  of the connections' requests is then SOME list of such steps, and the statements below hold for every list. -/

/-- the read-modify-write of an account is bracketed by a per-account lock held to the end of the handler -/
theorem C07_account_step_atomic :
    Gen.abmfServer.lockBeforeRead = true ∧ Gen.abmfServer.heldToReturn = true ∧ Gen.abmfServer.perAccount = true ∧
    Gen.abmfServer.readsAndWrites = true := by decide

/-- the grants the server answers along a list of requests -/
def grantsSum (st : Store) : List CCR → Nat
  | [] => 0
  | c :: r =>
    (match (handleCCR st c).2 with
     | .answer _ _ _ (some g) _ => g
     | _ => 0) + grantsSum (handleCCR st c).1 r

/-- a reservation (INITIAL/UPDATE, DIRECT_DEBITING) of at most 2^63-1 for the account (ue, rg) -/
def IsReservationFor (ue : Bytes) (rg : Nat) (c : CCR) : Prop :=
  subscriberId c = ue ∧ c.rg = rg ∧ c.action = 0 ∧ (c.reqType = 1 ∨ c.reqType = 2) ∧ c.rsu < 9223372036854775808

/-- C07 for any number of reservations of one account in ANY order (hence for every interleaving of the requests of any
    number of connections): the grants add up to exactly what the balance went down by, and the balance never goes
    below zero — nothing is granted twice, nothing is lost. -/
theorem C07_concurrent_reservations (ue : Bytes) (rg : Nat) (cs : List CCR) :
    ∀ (st : Store) (q : Quota) (b : Int), find st ue rg = some q → q.parse = some b → 0 ≤ b → b < 9223372036854775808 →
      (∀ c ∈ cs, IsReservationFor ue rg c) →
      ∃ (q' : Quota) (b' : Int), find (run st cs) ue rg = some q' ∧ q'.parse = some b' ∧ 0 ≤ b' ∧
        (grantsSum st cs : Int) = b - b' := by
  induction cs with
  | nil =>
    intro st q b hf hp h0 _ _
    exact ⟨q, b, hf, hp, h0, by simp [grantsSum]⟩
  | cons c r ih =>
    intro st q b hf hp h0 h1 hall
    obtain ⟨rfl, rfl, ha, ht, hr⟩ := hall c List.mem_cons_self
    obtain ⟨g, hrep, hg, hfind, hnn⟩ := C07_reserve hf hp ha ht hr h0 h1
    obtain ⟨q', b', e1, e2, e3, e4⟩ := ih _ _ (b - g) hfind rfl hnn (by omega)
      fun x hx => hall x (List.mem_cons_of_mem _ hx)
    refine ⟨q', b', e1, e2, e3, ?_⟩
    simp only [grantsSum, hrep]
    omega

/-- non-vacuity: three connections' reservations of 60 against a balance of 100, in some interleaving: 100 granted in all -/
example :
    let c : Nat → CCR := fun k => { sess := [], reqType := 2, reqNum := k, action := 0, subType := 1, subData := [49], rg := 1, rsu := 60, usu := 0 }
    grantsSum [{ ue := [105, 109, 115, 105, 45, 49], rg := 1, quota := .num 100 }] [c 0, c 1, c 2] = 100 := by decide

end Chf.Props.C07
