import ChfVerif.Props.C01
import ChfVerif.Props.C02
import ChfVerif.Props.C10
import ChfVerif.Props.C12
import ChfVerif.Props.C11
/-
  C09 — concurrent requests behave like some serial order.

  What is a theorem here: the charging model's properties hold for EVERY order in which a scheduler can hand
  a batch of in-flight requests to the per-subscriber lock.  `execSched` lets an arbitrary scheduler pick, again
  and again, any of the requests still pending and run it atomically; `execSched_eq_run` shows the result is the
  sequential run of the picked order, and the order-independent theorems C01 (accounting identity), C10
  (unique references), C12 (status set, rejected requests without effect) and the non-interference theorem
  (a request touches no other subscriber's context) therefore hold for every schedule.

  What is not a theorem: that the Go code's requests really are atomic steps of this kind (the subscriber
  lock covers every access to the subscriber context; global counters are updated atomically).  That is decided
  per run: batches of concurrent requests against the real router built with the race detector, and for every
  batch of up to 5 requests a search over all serial orders for one that the model reproduces exactly (partial).
-/
namespace Chf.Props.C09
open Chf Chf.Charging

/-- a scheduler: at each turn the index (modulo the number still pending) of the request that runs next -/
def pickOrder : List Op → List Nat → List Op
  | [], _ => []
  | pending, [] => pending                       -- scheduler's choices exhausted: the rest in queue order
  | p :: ps, i :: is =>
    let pending := p :: ps
    let k := i % pending.length
    match pending[k]? with
    | some op => op :: pickOrder (pending.eraseIdx k) is
    | none => pending
termination_by pending => pending.length
decreasing_by
  have : i % (p :: ps).length < (p :: ps).length := Nat.mod_lt _ (by simp)
  simp only [List.length_eraseIdx, this, if_true]
  simp

/-- requests run one at a time, each atomically, in the order the scheduler picks -/
def execSched (guard : SplitGuard) (s : State) (pending : List Op) (picks : List Nat) : State :=
  run guard s (pickOrder pending picks)

theorem execSched_eq_run (guard : SplitGuard) (s : State) (pending : List Op) (picks : List Nat) :
    execSched guard s pending picks = run guard s (pickOrder pending picks) := rfl

/-- What modelling a request as ONE atomic step of `execSched` rests on, as far as the source can show it (regenerated tables
    of Gen/LockSites.lean): every Lock() of the request path is released on every path and is not held across a wait for the
    consumer; every access to the state a subscriber's requests share that an HTTP handler can reach is made while the
    subscriber's mutex is held; the global sequence counters are only ever advanced, atomically or under the context lock. -/
def AtomicSteps : Prop :=
  Chf.Gen.lockSites.all Chf.LockDiscipline.LockSite.ok = true ∧
  Chf.Gen.lockSites.all Chf.LockDiscipline.LockSite.prompt = true ∧
  Chf.LockDiscipline.stateAccessOK Chf.Gen.fnFacts Chf.Gen.callFacts = true ∧
  Chf.Gen.counterSites.all (fun c => decide (c.kind ≤ 1)) = true

/-- … and it holds of the working tree (each conjunct by evaluation over the regenerated table) -/
theorem C09_atomic_steps : AtomicSteps :=
  ⟨Chf.Props.C11.sites_ok, Chf.Props.C11.sites_prompt, Chf.Props.C11.state_access_under_lock,
   Chf.Props.C10.counters_only_increase.1⟩

/-- C09 (accounting): whatever the schedule, balance + reservation = initial + credits − rated usage -/
theorem C09_identity_every_schedule (_atomic : AtomicSteps) (guard : SplitGuard) (supi : Bytes) (rg : Int) (hrg : int32 rg)
    (s : State) (pending : List Op) (picks : List Nat)
    (hok : Chf.Props.C01.runOKb guard s (pickOrder pending picks) = true) :
    total (execSched guard s pending picks) supi rg =
      (total s supi rg).map (fun m => m + Chf.Props.C01.netRun guard supi rg s (pickOrder pending picks)) :=
  Chf.Props.C01.C01 guard supi rg hrg (pickOrder pending picks) s hok

/-- C09 (references): whatever the schedule, the next reference handed out is not in use -/
theorem C09_unique_refs_every_schedule (_atomic : AtomicSteps) (guard : SplitGuard) (pending : List Op) (picks : List Nat)
    (accts : Abmf.Store) (tariffs : List Rating.Tariff) (r : Req) (nf : Bytes) (u : Ue)
    (hu : u ∈ (execSched guard { accts := accts, tariffs := tariffs } pending picks).ues) :
    sessionId r.supi nf (execSched guard { accts := accts, tariffs := tariffs } pending picks).sessionSeq ∉ keysOf u :=
  Chf.Props.C10.C10 guard (pickOrder pending picks) accts tariffs r nf u hu

/-- C09 (non-interference): a request of one subscriber leaves every other subscriber's context as it is, so
    requests of different subscribers act on disjoint state (apart from the global counters) -/
theorem C09_noninterference (guard : SplitGuard) (s : State) (op : Op) (supi : Bytes)
    (hne : ∀ sid r, (op = .update sid r ∨ op = .release sid r ∨ op = .create r) → r.supi ≠ supi)
    (hre : ∀ info ueId rgStr, op = .recharge info → splitUnderscore info = [ueId, rgStr] → ueId ≠ supi) :
    findUe (step guard s op).1.ues supi = findUe s.ues supi :=
  Chf.Props.C02.C02_other_subscribers_untouched guard s op supi hne hre

/-- C09 for the working tree: the every-schedule statements with the atomic-step hypothesis discharged from the regenerated
    tables.  When a change to the code breaks one of the tables' obligations, these no longer check. -/
theorem C09_here (guard : SplitGuard) (supi : Bytes) (rg : Int) (hrg : int32 rg) (s : State) (pending : List Op)
    (picks : List Nat) (hok : Chf.Props.C01.runOKb guard s (pickOrder pending picks) = true) :
    total (execSched guard s pending picks) supi rg =
      (total s supi rg).map (fun m => m + Chf.Props.C01.netRun guard supi rg s (pickOrder pending picks)) :=
  C09_identity_every_schedule C09_atomic_steps guard supi rg hrg s pending picks hok

theorem C09_unique_refs_here (guard : SplitGuard) (pending : List Op) (picks : List Nat)
    (accts : Abmf.Store) (tariffs : List Rating.Tariff) (r : Req) (nf : Bytes) (u : Ue)
    (hu : u ∈ (execSched guard { accts := accts, tariffs := tariffs } pending picks).ues) :
    sessionId r.supi nf (execSched guard { accts := accts, tariffs := tariffs } pending picks).sessionSeq ∉ keysOf u :=
  C09_unique_refs_every_schedule C09_atomic_steps guard pending picks accts tariffs r nf u hu

/-- C09 (no data race on subscriber state): under every scheduler, a thread that keeps the lock discipline touches the shared
    state only while it is the holder of the mutex (mutual-exclusion model), and the request path keeps that discipline
    (no chain of unlocked calls from a handler to an unguarded access) -/
theorem C09_no_unsynchronised_access :
    (∀ (prog : Nat → List Chf.LockDiscipline.Ev), (∀ i, Chf.LockDiscipline.guarded false (prog i) = true) →
      ∀ sched, ∀ e ∈ (Chf.LockDiscipline.Sys.run { prog := prog } sched).log, e.2 = some e.1) ∧
    (∀ r g, r ∈ Chf.Gen.fnFacts → g ∈ Chf.Gen.fnFacts → r.root = true → g.relies = true →
      ¬ Chf.LockDiscipline.UnheldPath Chf.Gen.callFacts r.id g.id) :=
  ⟨fun prog hg sched => Chf.Props.C11.C11_mutual_exclusion prog hg sched,
   fun r g hr hg hroot hrel => Chf.Props.C11.C11_no_unguarded_access r g hr hg hroot hrel⟩

/-- C09 (no crash at the API): every request of every schedule is answered 2xx or 4xx -/
theorem C09_status (guard : SplitGuard) (s : State) (op : Op) (h : ∀ a b c, op ≠ .credit a b c) :
    (step guard s op).2.status ∈ [201, 200, 204, 400, 404] :=
  Chf.Props.C12.C12_status_set guard s op h

/-- C09 (no deadlock through the consumer): no lock of the request path is held while the CHF waits for the NF
    consumer, so a consumer that reacts to a notification with a request of its own cannot deadlock with it; and
    every lock taken is released on every path (regenerated lock-site facts, see Props/C11) -/
theorem C09_locks_released_and_not_held_across_consumer :
    Chf.Gen.lockSites.all Chf.LockDiscipline.LockSite.prompt = true ∧
    Chf.Gen.lockSites.all Chf.LockDiscipline.LockSite.ok = true :=
  ⟨Chf.Props.C11.sites_prompt, Chf.Props.C11.sites_ok⟩

/-- non-vacuity: a scheduler that runs the last of three pending requests first -/
example : pickOrder [Op.recharge [1], Op.recharge [2], Op.recharge [3]] [2, 0, 0]
    = [Op.recharge [3], Op.recharge [1], Op.recharge [2]] := by
  simp [pickOrder]

end Chf.Props.C09
