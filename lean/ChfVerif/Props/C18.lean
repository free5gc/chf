import ChfVerif.Props.C19
/-
  C18 — Diameter connections and background tasks stay bounded as requests accumulate.

  In the client machine of Model/DiamClient.lean a connection is open from the `start` of its request to the
  `ret` that runs the deferred Close.  Every open connection has its reader task and, when the sm.Client is built
  with `EnableWatchdog`, a watchdog task; a handler blocked on a channel is a task as well; and a watchdog whose
  connection was closed before go-diameter's close notification got armed (no message read since the handshake:
  exactly the request that timed out) is never told and stays for ever (`WSt.orphans`, see the model).

  For the configuration of the working tree (`C19.cfg_good` and `cfg_quiet`, by decide over the regenerated facts)
  and every scheduler, at most one connection is open per subscriber and peer at any time, none once the request
  has returned, and no handler or watchdog task is ever left behind — however many requests have been processed
  (the bound does not depend on the length of the history).  `C18_watchdog_leak` is the converse: with the
  watchdog enabled, n requests that time out leave n watchdog tasks behind, for every n.
-/
namespace Chf.Props.C18
open Chf.DiamClient Chf.Props.C19

/-- the working tree builds both sm.Clients without the per-connection watchdog -/
theorem cfg_quiet : Chf.Gen.abmfClient.watchdog = false ∧ Chf.Gen.ratingClient.watchdog = false := by decide

/-- the ghost state does not influence the machine -/
theorem stepW_st (cfg : Cfg) (w : WSt) (ev : Ev) : (stepW cfg w ev).st = step cfg w.st ev := by
  unfold stepW
  split
  · split <;> rfl
  · split
    · split <;> rfl
    · rfl
  · rfl

theorem runW_st (cfg : Cfg) (evs : List Ev) : ∀ w, (runW cfg w evs).st = run cfg w.st evs :=
  fun _ => (List.foldl_hom WSt.st fun w ev => (stepW_st cfg w ev).symm).symm

/-- without the watchdog no task can be orphaned -/
theorem stepW_orphans (cfg : Cfg) (hw : cfg.watchdog = false) (w : WSt) (ev : Ev) :
    (stepW cfg w ev).orphans = w.orphans := by
  unfold stepW
  split
  · split <;> rfl
  · split
    · split
      · simp [hw]
      · rfl
    · rfl
  · rfl

theorem runW_orphans (cfg : Cfg) (hw : cfg.watchdog = false) (evs : List Ev) :
    ∀ w, (runW cfg w evs).orphans = w.orphans := by
  induction evs with
  | nil => intro w; rfl
  | cons e r ih => intro w; exact (ih _).trans (stepW_orphans cfg hw w e)

/-- C18 (bounded): under every scheduler at most one connection of the subscriber to the peer is open, and at most one task
    exists for it (`tasks`: the reader of an open connection, handlers stuck in a send, watchdogs left behind) -/
theorem C18_bounded (cfg : Cfg) (hg : cfg.good = true) (hw : cfg.watchdog = false) (evs : List Ev) :
    (runW cfg {} evs).st.conns.length ≤ 1 ∧ tasks cfg (runW cfg {} evs) ≤ 1 := by
  have h := reachable_inv cfg hg evs
  have hc : (run cfg {} evs).conns.length ≤ 1 := Nat.le_trans h.connsShort (by split <;> omega)
  rw [tasks_quiet hw, runW_orphans cfg hw, runW_st, h.notBlocked]
  exact ⟨hc, hc⟩

/-- a completed request leaves no connection, watchdog or handler task behind -/
theorem C18_none_left (cfg : Cfg) (hg : cfg.good = true) (hw : cfg.watchdog = false) (evs : List Ev)
    (hidle : (runW cfg {} evs).st.cur = none ∧ (runW cfg {} evs).st.returning = none) :
    (runW cfg {} evs).st.conns = [] ∧ tasks cfg (runW cfg {} evs) = 0 := by
  have h := reachable_inv cfg hg evs
  rw [tasks_quiet hw, runW_orphans cfg hw, runW_st] at *
  have hc := h.idle_conns hidle.1 hidle.2
  exact ⟨hc, by rw [hc, h.notBlocked]; rfl⟩

/-- both client functions of the working tree -/
theorem C18 (evs : List Ev) :
    ((runW Chf.Gen.abmfClient {} evs).st.conns.length ≤ 1 ∧ tasks Chf.Gen.abmfClient (runW Chf.Gen.abmfClient {} evs) ≤ 1) ∧
    ((runW Chf.Gen.ratingClient {} evs).st.conns.length ≤ 1 ∧ tasks Chf.Gen.ratingClient (runW Chf.Gen.ratingClient {} evs) ≤ 1) :=
  ⟨C18_bounded _ cfg_good.1 cfg_quiet.1 evs, C18_bounded _ cfg_good.2 cfg_quiet.2 evs⟩

/-! ### the dial phase

  A peer may accept the connection and take seconds over the TLS handshake or the capabilities exchange.  The code
  at hand dials synchronously (`syncDial`, regenerated): the request waits for its connection, so the connection
  belongs to the request from the moment it exists and the deferred Close covers it.  A dial made in a task of its
  own with a deadline lets the request return first; the connection that the set-up produces afterwards belongs to
  nobody and is never closed. -/

/-- both client functions of the working tree dial synchronously -/
theorem cfg_sync_dial : Chf.Gen.abmfClient.syncDial = true ∧ Chf.Gen.ratingClient.syncDial = true := by decide

/-- no connection set-up outlives its request, and while a request is still dialling no connection is open — for
    every scheduler and history -/
theorem C18_no_setup_left (cfg : Cfg) (hg : cfg.good = true) (evs : List Ev) :
    (run cfg {} evs).lateDials = [] ∧ ((run cfg {} evs).dialing.isSome = true → (run cfg {} evs).conns = []) :=
  ⟨(reachable_inv cfg hg evs).lateNone, (reachable_inv cfg hg evs).dialing_conns⟩

/-- a connection set-up that completes at once is the `start` of the machine without a dial phase -/
theorem dial_instant (cfg : Cfg) (s : St) (hd : s.dialing = none) (hl : s.lateDials = []) :
    step cfg (step cfg s .startSlow) (.dialDone s.next) = step cfg s .start :=
  step_startSlow_dialDone cfg s hd hl

/-- a request that gives up on its dial and returns; the set-up completes afterwards -/
def abandonedDial (k : Nat) : List Ev := [.startSlow, .dialGiveUp, .ret, .dialDone k]

def abandonedRun : Nat → Nat → List Ev
  | _, 0 => []
  | k, n + 1 => abandonedDial k ++ abandonedRun (k + 1) n

/-- nothing of the subscriber is in progress, and every connection still open belongs to an earlier request -/
structure Idle (s : St) : Prop where
  cur : s.cur = none
  returning : s.returning = none
  dialing : s.dialing = none
  wedged : s.wedged = false
  blocked : s.blocked = 0
  late : s.lateDials = []
  connsOld : ∀ j ∈ s.conns, j < s.next

theorem abandonedDial_leaks (cfg : Cfg) (ha : cfg.syncDial = false) (s : St) (hi : Idle s) :
    Idle (run cfg s (abandonedDial s.next)) ∧ (run cfg s (abandonedDial s.next)).next = s.next + 1 ∧
    (run cfg s (abandonedDial s.next)).conns.length = s.conns.length + 1 := by
  have hkeep : s.conns.filter (· != s.next) = s.conns :=
    List.filter_eq_self.2 fun j hj => by simpa using Nat.ne_of_lt (hi.connsOld j hj)
  -- request `s.next` starts dialling, gives up and returns - closing nothing, no connection is its own yet -; then
  -- its set-up completes
  have e : run cfg s (abandonedDial s.next) =
      { s with next := s.next + 1, reg := chanOf cfg s.next, log := .timeout s.next :: s.log,
               conns := s.next :: s.conns, stale := if cfg.closesConn then s.next :: s.stale else s.stale } := by
    simp [run, abandonedDial, step, hi.cur, hi.returning, hi.dialing, hi.wedged, hi.blocked, hi.late, ha, hkeep]
  rw [e]
  refine ⟨⟨hi.cur, hi.returning, hi.dialing, hi.wedged, hi.blocked, hi.late, fun j hj => ?_⟩, rfl, rfl⟩
  rcases List.mem_cons.1 hj with rfl | hj
  · exact Nat.lt_succ_self _
  · exact Nat.lt_succ_of_lt (hi.connsOld j hj)

theorem abandonedRun_leaks (cfg : Cfg) (ha : cfg.syncDial = false) (n : Nat) :
    ∀ s, Idle s → (run cfg s (abandonedRun s.next n)).conns.length = s.conns.length + n := by
  induction n with
  | zero => intro s _; rfl
  | succ m ih =>
    intro s hi
    obtain ⟨hi', hn, hl⟩ := abandonedDial_leaks cfg ha s hi
    rw [abandonedRun, run_append, ← hn, ih _ hi', hl]
    omega

/-- with a dial that the request can give up on, n requests to a peer that is slow to shake hands leave n
    connections behind — and n reader tasks: no bound -/
theorem C18_async_dial_leak (cfg : Cfg) (ha : cfg.syncDial = false) (n : Nat) :
    (run cfg {} (abandonedRun 1 n)).conns.length = n ∧ n ≤ tasks cfg ⟨run cfg {} (abandonedRun 1 n), [], 0⟩ := by
  have h := abandonedRun_leaks cfg ha n {} ⟨rfl, rfl, rfl, rfl, rfl, rfl, by simp⟩
  have h' : (run cfg {} (abandonedRun 1 n)).conns.length = n := by simpa using h
  refine ⟨h', ?_⟩
  unfold tasks
  simp only [h']
  split <;> omega

/-- the machine of a client that dials in a task of its own and stops waiting after 2 s -/
def asyncDial : Cfg := { Chf.Gen.ratingClient with syncDial := false, dialDeadlineMs := 2000 }
example : (run asyncDial {} [.startSlow, .dialGiveUp, .ret, .dialDone 1]).conns = [1] := by decide
example : (run asyncDial {} (abandonedRun 1 3)).conns.length = 3 := by decide
/-- non-vacuity: the same peer against the working tree's machine — the request waits, the connection is its own -/
example : (run Chf.Gen.ratingClient {} [.startSlow, .dialGiveUp, .dialDone 1, .answer 1, .ret]).conns = []
    ∧ (run Chf.Gen.ratingClient {} [.startSlow, .dialGiveUp, .dialDone 1, .answer 1, .ret]).log = [.own 1] := by decide

/-! ### the watchdog leak (the code before the `EnableWatchdog` repair) -/

/-- one request that times out and returns -/
def timedOut : List Ev := [.start, .timeout, .ret]

/-- nothing of the subscriber is in progress and nothing is left over: no connection, no buffered answer, no armed watchdog -/
structure Quiet (w : WSt) : Prop where
  cur : w.st.cur = none
  returning : w.st.returning = none
  wedged : w.st.wedged = false
  blocked : w.st.blocked = 0
  buf : w.st.buf = []
  conns : w.st.conns = []
  armed : w.armed = []
  dialing : w.st.dialing = none

theorem timedOut_leaks (cfg : Cfg) (hg : cfg.good = true) (hw : cfg.watchdog = true) (w : WSt) (hq : Quiet w) :
    Quiet (runW cfg w timedOut) ∧ (runW cfg w timedOut).orphans = w.orphans + 1 := by
  have hG := Cfg.good_unpack hg
  have hb : w.st.busy = false := St.busy_false hq.cur hq.returning hq.dialing
  -- request `w.st.next` opens its connection, times out and returns: the connection is closed before anything was
  -- read from it, so its close notification is not armed
  have e : runW cfg w timedOut =
      { st := { w.st with next := w.st.next + 1, reg := w.st.next, log := .timeout w.st.next :: w.st.log,
                          stale := w.st.next :: w.st.stale },
        armed := [], orphans := w.orphans + 1 } := by
    simp [runW, timedOut, stepW, step_start hG hq.wedged hq.blocked (by simp [hq.buf]), hb, step_timeout, step_ret hG,
      hq.conns, hq.armed, hq.cur, hq.returning, hw, hG.closesConn]
  rw [e]
  exact ⟨⟨hq.cur, hq.returning, hq.wedged, hq.blocked, hq.buf, hq.conns, rfl, hq.dialing⟩, rfl⟩

/-- with the watchdog enabled, n requests that time out leave n watchdog tasks behind: no bound -/
theorem C18_watchdog_leak (cfg : Cfg) (hg : cfg.good = true) (hw : cfg.watchdog = true) (n : Nat) :
    (runW cfg {} (List.replicate n timedOut).flatten).orphans = n ∧
    tasks cfg (runW cfg {} (List.replicate n timedOut).flatten) = n := by
  have key : ∀ n (w : WSt), Quiet w →
      Quiet (runW cfg w (List.replicate n timedOut).flatten) ∧
      (runW cfg w (List.replicate n timedOut).flatten).orphans = w.orphans + n := by
    intro n
    induction n with
    | zero => intro w hq; exact ⟨hq, rfl⟩
    | succ m ih =>
      intro w hq
      obtain ⟨hq', ho⟩ := timedOut_leaks cfg hg hw w hq
      rw [List.replicate_succ, List.flatten_cons, runW_append]
      exact ⟨(ih _ hq').1, by rw [(ih _ hq').2, ho]; omega⟩
  have h := key n {} ⟨rfl, rfl, rfl, rfl, rfl, rfl, rfl, rfl⟩
  refine ⟨by simpa using h.2, ?_⟩
  unfold tasks
  rw [h.1.conns, h.1.blocked, h.2]
  simp

/-- the machine of the code before the repair: three time-outs, three watchdogs left -/
def withWatchdog : Cfg := { Chf.Gen.abmfClient with watchdog := true }
example : (runW withWatchdog {} [.start, .timeout, .ret, .start, .timeout, .ret, .start, .timeout, .ret]).orphans = 3 := by
  decide
/-- an answered request arms the close notification: nothing is left -/
example : (runW withWatchdog {} [.start, .answer 1, .ret, .start, .answer 2, .ret]).orphans = 0 := by decide
/-- without the deferred Close every request leaves its connection open (the code before 396fba5) -/
example : (run before {} [.start, .answer 1, .ret, .start, .answer 2, .ret, .start, .answer 3, .ret]).conns.length = 3 := by
  decide
/-- non-vacuity: the same histories on the working tree's machine -/
example : (runW Chf.Gen.abmfClient {} [.start, .answer 1, .ret, .start, .timeout, .ret, .start, .answer 3, .ret]).st.conns = []
    ∧ tasks Chf.Gen.abmfClient (runW Chf.Gen.abmfClient {} [.start, .answer 1, .ret, .start, .timeout, .ret]) = 0 := by
  decide

end Chf.Props.C18
