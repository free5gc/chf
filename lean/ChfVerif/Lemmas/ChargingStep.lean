import ChfVerif.Lemmas.ChargingOutage
import ChfVerif.Lemmas.ChargingShape
/-
  How each operation of the charging model moves accounts and reservations: an update or release that reaches credit
  control leaves what the usage loop returns (`charged_step`); every other operation moves an account by what it credits
  to it and no reservation (`uncharged_step`).
-/
namespace Chf.Charging
open Chf

section
variable {guard : SplitGuard} {s : State} {op : Op}

/-- `ccX` (the account store as it really is, the subscriber's rating groups) is what an update or release that reaches
    credit control leaves; the rating groups of the other subscribers stay -/
theorem charged_step {supi : Bytes} {trigs : List Nat}
    {groups : List (Int × RgState)} {us : List Usage} (h : chargedUsages s op = some (supi, trigs, groups, us)) :
    ccX s.abmfUp s.rfUp s.tariffs supi trigs s.accts groups us =
      ((step guard s op).1.accts, groupsOf (step guard s op).1 supi) ∧
    (∀ supi', supi' ≠ supi → groupsOf (step guard s op).1 supi' = groupsOf s supi') ∧
    groupsOf s supi = groups := by
  rcases step_shape guard s op with i | ⟨_, u', key, x, w⟩
  · rw [i.charged] at h; cases h
  · rcases w.money with ⟨_, _, hc, hg, ha⟩ | ⟨hc, _⟩ <;> rw [hc] at h <;> cases h
    refine ⟨?_, fun supi hne => by rw [w.groupsOf, if_neg hne], groupsOf_eq _ _⟩
    rw [ha, w.groupsOf, if_pos rfl, hg]
    rfl

theorem opOKx_cases (h : opOKx s op = true) :
    chargedUsages s op = none ∨ ∃ supi trigs groups us, chargedUsages s op = some (supi, trigs, groups, us) ∧
      ccOKx s.abmfUp s.rfUp s.tariffs supi trigs s.accts groups us = true := by
  unfold opOKx at h
  cases hc : chargedUsages s op with
  | none => exact .inl rfl
  | some x => obtain ⟨a, b, c, d⟩ := x; rw [hc] at h; exact .inr ⟨a, b, c, d, rfl, h⟩

/-- what an operation credits to account (supi, rg) -/
def creditAmt (op : Op) (supi : Bytes) (rg : Nat) : Int :=
  match op with
  | .credit a b c => if a = supi ∧ b = rg then c else 0
  | _ => 0

theorem balOf_creditAcct (s : State) (a : Bytes) (b : Nat) (c : Int) (supi : Bytes) (rg : Nat) :
    balOf (creditAcct s a b c).accts supi rg = (balOf s.accts supi rg).map (· + creditAmt (.credit a b c) supi rg) := by
  by_cases h : a = supi ∧ b = rg
  · obtain ⟨rfl, rfl⟩ := h
    simp only [creditAmt, and_self, if_true]
    rcases creditAcct_cases s a b c with ⟨e, hn⟩ | ⟨q, v, hf, hv, e⟩
    · rw [e, hn]; rfl
    · rw [e, (SetBal.put hf _).own, hv]; rfl
  · have : balOf (creditAcct s a b c).accts supi rg = balOf s.accts supi rg := by
      rcases creditAcct_cases s a b c with ⟨e, _⟩ | ⟨q, v, hf, _, e⟩ <;> rw [e]
      exact (SetBal.put hf _).frame _ _ (fun h' => h ⟨h'.1.symm, h'.2.symm⟩)
    rw [this]; simp only [creditAmt, h, if_false]; cases balOf s.accts supi rg <;> simp

theorem uncharged_step (h : chargedUsages s op = none) :
    (∀ supi rg, resv (groupsOf (step guard s op).1 supi) rg = resv (groupsOf s supi) rg) ∧
    (∀ supi rg, balOf (step guard s op).1.accts supi rg = (balOf s.accts supi rg).map (· + creditAmt op supi rg)) := by
  have hbal : (step guard s op).1.accts = s.accts ∨ (∃ a b c, op = .credit a b c) → ∀ supi rg,
      balOf (step guard s op).1.accts supi rg = (balOf s.accts supi rg).map (· + creditAmt op supi rg) := by
    intro hacc supi rg
    cases op with
    | credit a b c => exact balOf_creditAcct s a b c supi rg
    | _ =>
      rcases hacc with e | ⟨a, b, c, h⟩
      · rw [e]; show _ = (balOf s.accts supi rg).map (· + 0); cases balOf s.accts supi rg <;> simp
      · cases h
  rcases step_shape guard s op with i | ⟨_, u', key, x, w⟩
  · exact ⟨fun supi rg => by unfold groupsOf; rw [i.ues], hbal (i.answer.imp_left And.right)⟩
  · rcases w.money with ⟨_, _, hc, _⟩ | ⟨_, hr, ha⟩
    · rw [hc] at h; cases h
    · refine ⟨fun supi rg => ?_, hbal (Or.inl ha)⟩
      rw [w.groupsOf]; split
      · rename_i e; rw [hr, e, groupsOf_eq]
      · rfl

theorem uncharged_nonneg (hc : chargedUsages s op = none)
    (hcr : ∀ a b c, op = .credit a b c → 0 ≤ c) (hN : NonNeg s.accts) : NonNeg (step guard s op).1.accts := by
  intro supi rg v hv
  rw [(uncharged_step (guard := guard) hc).2] at hv
  obtain ⟨w, hw, rfl⟩ := Option.map_eq_some_iff.mp hv
  have h0 := hN _ _ _ hw
  have h1 : 0 ≤ creditAmt op supi rg := by
    cases op with
    | credit a b c => simp only [creditAmt]; split; exact hcr a b c rfl; exact Int.le_refl 0
    | _ => exact Int.le_refl 0
  omega

end

end Chf.Charging
