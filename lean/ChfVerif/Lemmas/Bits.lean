import ChfVerif.Model.Basic
/- bit-level helper lemmas on `Nat` (shifts and masks ↔ div / mod / plus), and reading at an offset of a concatenation -/
namespace Chf

theorem shl_or_of_lt {a b i : Nat} (h : b < 2 ^ i) : a <<< i ||| b = a * 2 ^ i + b := by
  rw [← Nat.shiftLeft_add_eq_or_of_lt h, Nat.shiftLeft_eq]

theorem or_shl_of_lt {a b i : Nat} (h : b < 2 ^ i) : b ||| a <<< i = a * 2 ^ i + b := by
  rw [Nat.or_comm]; exact shl_or_of_lt h

/-- two adjacent bit fields: the lower one, `j` bits wide, sits at bit `k` -/
theorem shl_or_shl {a b : Nat} (j k : Nat) (hb : b < 2 ^ j) : a <<< (j + k) ||| b <<< k = (a * 2 ^ j + b) <<< k := by
  rw [Nat.shiftLeft_add, ← Nat.shiftLeft_or_distrib, shl_or_of_lt hb]

theorem mul_add_div_of_lt {a b n : Nat} (hb : b < n) : (a * n + b) / n = a := by
  rw [Nat.add_comm, Nat.add_mul_div_right _ _ (Nat.zero_lt_of_lt hb), Nat.div_eq_of_lt hb, Nat.zero_add]

/-- shift-and-mask is the `w`-bit field at bit `lo`; with `lo`, `w` literals the two sides unify with `x >>> 23 &&& 31` etc. -/
theorem shr_and (x lo w : Nat) : x >>> lo &&& (2 ^ w - 1) = x / 2 ^ lo % 2 ^ w := by
  rw [Nat.and_two_pow_sub_one_eq_mod, Nat.shiftRight_eq_div_pow]

theorem rd16_be16 {x : Nat} (h : x < 65536) : rd16 (x / 256 % 256) (x % 256) = x := by
  rw [rd16, Nat.mod_eq_of_lt (Nat.div_lt_of_lt_mul (show x < 256 * 256 from h)), Nat.div_add_mod']

theorem rd32_be32 {x : Nat} (h : x < 4294967296) :
    rd32 (x / 16777216 % 256) (x / 65536 % 256) (x / 256 % 256) (x % 256) = x := by
  unfold rd32; omega

/-! ### `data[i]`, `data[i:j]` behind a prefix: the origin moves, the offsets stay -/

theorem at?_append_add (p s : Bytes) (k : Nat) : at? (p ++ s) (p.length + k) = at? s k := by
  unfold at?; rw [List.drop_length_add_append]

theorem slice_append_add (p s : Bytes) (i j : Nat) :
    slice (p ++ s) (p.length + i) (p.length + j) = slice s i j := by
  unfold slice
  rw [List.drop_length_add_append, List.length_append, Nat.add_sub_add_left]
  simp only [Nat.add_le_add_iff_left]

theorem at?_append_length (p s : Bytes) : at? (p ++ s) p.length = at? s 0 := at?_append_add p s 0

theorem slice_append_length (p s : Bytes) (j : Nat) : slice (p ++ s) p.length (p.length + j) = slice s 0 j :=
  slice_append_add p s 0 j

theorem at?_cons_zero (x : Nat) (r : Bytes) : at? (x :: r) 0 = some x := rfl

theorem at?_cons_succ (x : Nat) (r : Bytes) (k : Nat) : at? (x :: r) (k + 1) = at? r k := rfl

theorem slice_cons_succ (x : Nat) (r : Bytes) (i j : Nat) : slice (x :: r) (i + 1) (j + 1) = slice r i j := by
  rw [Nat.add_comm i, Nat.add_comm j]; exact slice_append_add [x] r i j

theorem slice_zero_append (b c : Bytes) : slice (b ++ c) 0 b.length = some b := by
  simp [slice]

theorem slice_zero_two (a b : Nat) (r : Bytes) : slice (a :: b :: r) 0 2 = some [a, b] := slice_zero_append [a, b] r

end Chf
