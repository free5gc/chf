import ChfVerif.Lemmas.ChargingShape
import ChfVerif.Lemmas.Digits
/-
  Session references: two references with different sequence numbers differ whatever the names in them; what holds of
  every key of every session map along a history (`keys_invariant`: references below the counter, no empty reference).
-/
namespace Chf.Charging
open Chf

/-- strconv's decimal text: the base-10 digits, each moved up to its character -/
theorem decimalFuel_eq_digits (f : Nat) : ∀ n, decimalFuel f n = (digits 10 n f).map (48 + ·) := by
  induction f with
  | zero => intro n; rfl
  | succ f ih => intro n; rw [decimalFuel, digits, ih]; split <;> simp [Nat.mod_eq_of_lt, *]

theorem decimalFuel_digits (f n : Nat) : ∀ x ∈ decimalFuel f n, 48 ≤ x ∧ x ≤ 57 := by
  intro x hx
  rw [decimalFuel_eq_digits, List.mem_map] at hx
  obtain ⟨d, hd, rfl⟩ := hx
  have := digits_lt 10 (by decide) f n d hd
  omega

theorem decimal_injective {a b : Nat} (h : decimal a = decimal b) : a = b := by
  -- `decimal n` runs with fuel `n`, and a number has fewer digits than its value
  have lt : ∀ n, n < 10 ^ (n + 1) := fun n =>
    Nat.lt_of_lt_of_le (Nat.lt_pow_self (by decide)) (Nat.pow_le_pow_right (by decide) (Nat.le_succ n))
  unfold decimal at h
  rw [decimalFuel_eq_digits, decimalFuel_eq_digits, List.map_inj_right fun _ _ => Nat.add_left_cancel] at h
  rw [← ofDigits_digits 10 a a (lt a), h, ofDigits_digits 10 b b (lt b)]

/-- the text after the last '-' is determined by the whole string -/
theorem split_last_dash (p1 : Bytes) : ∀ (p2 d1 d2 : Bytes), 45 ∉ d1 → 45 ∉ d2 →
    p1 ++ 45 :: d1 = p2 ++ 45 :: d2 → d1 = d2 := by
  intro p2 d1 d2 h1 h2 h
  -- what one prefix has more than the other is followed by a dash and lies in a text without dash: it is empty
  have tail : ∀ {a x y : Bytes}, 45 ∉ x → 45 :: x = a ++ 45 :: y → x = y := by
    intro a x y hx e
    cases a with
    | nil => exact (List.cons.inj e).2
    | cons c a' => exact absurd ((List.cons.inj e).2 ▸ (by simp : (45 : Nat) ∈ a' ++ 45 :: y)) hx
  rcases List.append_eq_append_iff.mp h with ⟨a, _, e⟩ | ⟨a, _, e⟩
  · exact tail h1 e
  · exact (tail h2 e).symm

/-- two session references are equal only if their sequence numbers are equal -/
theorem sessionId_seq_injective {supi1 nf1 supi2 nf2 : Bytes} {n1 n2 : Nat}
    (h : sessionId supi1 nf1 n1 = sessionId supi2 nf2 n2) : n1 = n2 := by
  unfold sessionId at h
  have h' : (supi1 ++ nf1) ++ 45 :: decimal n1 = (supi2 ++ nf2) ++ 45 :: decimal n2 := by
    simpa [List.append_assoc] using h
  have no45 : ∀ n, 45 ∉ decimal n := fun n hm => by have := decimalFuel_digits n n 45 hm; omega
  exact decimal_injective (split_last_dash _ _ _ _ (no45 _) (no45 _) h')

def keysOf (u : Ue) : List Bytes := u.cdr.map (·.1)

def SidBelow (n : Nat) (sid : Bytes) : Prop := sid = [] ∨ ∃ supi nf k, sid = sessionId supi nf k ∧ k < n

/-- every live session reference was issued with a sequence number below the current one -/
def SidsBelow (s : State) : Prop := ∀ u ∈ s.ues, ∀ sid ∈ keysOf u, SidBelow s.sessionSeq sid

theorem SidBelow_mono {n m : Nat} {sid : Bytes} (h : SidBelow n sid) (hnm : n ≤ m) : SidBelow m sid := by
  rcases h with h | ⟨a, b, k, h1, h2⟩
  · left; exact h
  · right; exact ⟨a, b, k, h1, by omega⟩

theorem RecStep.keys {n n' cdr rs cdr' rs' key x} (h : RecStep n cdr rs cdr' rs' n' key x) :
    ∀ k ∈ cdr'.map (·.1), k ∈ cdr.map (·.1) ∨ ∃ supi nf, k = sessionId supi nf n ∧ n' = n + 1 := by
  intro k hk
  cases h with
  | keep | event | append => exact Or.inl hk
  | opened supi nf rec hs => exact (mem_keys_setSid.mp hk).imp_right fun e => ⟨supi, nf, e, rfl⟩
  | split k idx rec hl hs =>
    exact Or.inl ((mem_keys_setSid.mp hk).elim id fun e => e ▸ List.mem_map.mpr ⟨(_, idx), mem_of_lookupSid hl, rfl⟩)
  | close => rw [keys_removeSid] at hk; exact Or.inl (List.mem_of_mem_erase hk)

theorem keys_invariant {Q : Nat → Bytes → Prop} (mono : ∀ {n m k}, n ≤ m → Q n k → Q m k)
    (fresh : ∀ supi nf n, Q (n + 1) (sessionId supi nf n)) (guard : SplitGuard) (s : State) (op : Op)
    (h : ∀ u ∈ s.ues, ∀ k ∈ keysOf u, Q s.sessionSeq k) :
    ∀ u ∈ (step guard s op).1.ues, ∀ k ∈ keysOf u, Q (step guard s op).1.sessionSeq k := by
  refine recs_invariant (P := fun n cdr _ => ∀ k ∈ cdr.map (·.1), Q n k) ?_ (fun _ _ hk => nomatch hk) guard s op h
  intro n n' cdr rs cdr' rs' key x st hc k hk
  rcases st.keys k hk with hk | ⟨a, b, hk, e⟩
  · exact mono st.le (hc k hk)
  · rw [hk, e]; exact fresh a b _

/-- no subscriber's session map has the empty reference as a key (one-time events, whose Location ends in an empty
    reference, open no session) -/
def NoEmptyKey (s : State) : Prop := ∀ u ∈ s.ues, ∀ k ∈ keysOf u, k ≠ []

theorem NoEmptyKey_step (guard : SplitGuard) (s : State) (op : Op) (h : NoEmptyKey s) : NoEmptyKey (step guard s op).1 :=
  keys_invariant (Q := fun _ k => k ≠ []) (fun _ h => h) sessionId_ne_nil guard s op h

end Chf.Charging
