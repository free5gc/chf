import ChfVerif.Lemmas.Charging
/-
  Credit control against what the CHF reaches: one usage and the usage loop for any reachability of the
  account-balance and the rating server (dial error, no answer within 5 s: the error paths of
  sessionChargingReservation), with both servers reachable as the special case C01 and C06 start from.

  Names that end in `x` / `X` speak of any reachability; the Booleans `a`, `f` (`abmfUp`, `rfUp` of the state) say
  whether the account-balance and the rating server are reached.  The specification's side conditions (`usageOKb`: both
  reached; `usageOKx a f`) are read against the environment `e` the CHF reaches as `UsageFit e` (`usageOKx_up`, `fit_of_OKx`);
  the money booked (`ratedUsage`, `accountedUsage a f`) as `bookedIn e`.
  `usage_x` says all that C01 and C06 need of one usage, `ccX_spec` carries it along the usage loop.
-/
namespace Chf.Charging
open Chf

theorem _root_.Option.map_map_eq {α β γ} {o : Option α} {f : α → β} {g : β → γ} {h : α → γ} (e : ∀ a, g (f a) = h a) :
    (o.map f).map g = o.map h := by
  cases o with
  | none => rfl
  | some a => exact congrArg some (e a)

theorem handleCCR_unreachable (c : Abmf.CCR) : Abmf.handleCCR [] c = ([], .noAnswer) := rfl

theorem handleSUR_unreachable (c : Rating.SUR) : Rating.handleSUR [] c = .noAnswer := rfl

theorem sendCCR_unreachable (supi : Bytes) (rg : Int) (st : RgState) (a b c d : Nat) :
    sendCCR [] supi rg st a b c d = ([], .noAnswer) := rfl

/-- `getUnitCost` falls back to 1 -/
theorem getUnitCost_unreachable (accts : Abmf.Store) (supi : Bytes) (rg : Int) :
    getUnitCost { accts := accts, tariffs := [] } supi rg = 1 := rfl

theorem reserveBranch_unreachable (tariffs : List Rating.Tariff) (supi : Bytes) (u : Usage) (st : RgState) (used : Nat) :
    (reserveBranch { accts := [], tariffs := tariffs } supi u st used).accts = [] := by
  unfold reserveBranch
  simp only [sendCCR_unreachable]
  split
  · rfl
  · rename_i h; split at h
    · cases h
    · cases h; split <;> rfl

theorem debitBranch_unreachable (tariffs : List Rating.Tariff) (supi : Bytes) (u : Usage) (st : RgState) (used : Nat) :
    (debitBranch { accts := [], tariffs := tariffs } supi u st used).accts = [] := by
  unfold debitBranch
  simp only [sendCCR_unreachable]
  split
  · rfl
  · split <;> rfl

theorem usageStep_unreachable (tariffs : List Rating.Tariff) (supi : Bytes) (trigs : List Nat) (groups : List (Int × RgState))
    (u : Usage) : (usageStep { accts := [], tariffs := tariffs } supi trigs groups u).1 = [] := by
  unfold usageStep
  split
  · rfl
  · simp only []
    split
    · exact reserveBranch_unreachable ..
    · split
      · exact debitBranch_unreachable ..
      · rfl

/-- every grant on the ledger is backed by reserved money -/
def Backed (tariffs : List Rating.Tariff) (supi : Bytes) (groups : List (Int × RgState)) (L : Ledger) : Prop :=
  ∀ rg s, int32 rg → Rating.findCost tariffs supi (u32 rg) = some s →
    ((lastGrant L rg * costOf s : Nat) : Int) ≤ resv groups rg

theorem Backed.set {tariffs : List Rating.Tariff} {supi : Bytes} {groups : List (Int × RgState)} {L L' : Ledger}
    (hB : Backed tariffs supi groups L) (rg : Int) (st' : RgState)
    (hL : ∀ rg', rg' ≠ rg → lastGrant L' rg' = lastGrant L rg')
    (hown : ∀ s, int32 rg → Rating.findCost tariffs supi (u32 rg) = some s →
      ((lastGrant L' rg * costOf s : Nat) : Int) ≤ st'.reserved) :
    Backed tariffs supi (setRg groups rg st') L' := by
  intro rg' s hrg hs
  rw [resv_setRg]
  by_cases heq : rg' = rg
  · rw [heq] at hrg hs ⊢; rw [if_pos rfl]; exact hown s hrg hs
  · rw [if_neg heq, hL _ heq]; exact hB rg' s hrg hs

/-- Both servers know the subscriber and the consumer reports no more than it was last granted: what is booked is then
    covered by the reservation, so the grants on the ledger stay backed and no account becomes overdrawn. -/
theorem Outcome.safe {e : Env} {supi : Bytes} {u : Usage} {groups : List (Int × RgState)} {out : RgOut} {L : Ledger}
    {b : Int} {s : Bytes} (o : Outcome e supi u (resv groups u.rg) out ((totalUsed u.cs * costOf s : Nat) : Int))
    (hrg32 : int32 u.rg) (hb : balOf e.accts supi (u32 u.rg) = some b)
    (ht : Rating.findCost e.tariffs supi (u32 u.rg) = some s) (hc : totalUsed u.cs ≤ lastGrant L u.rg)
    (hB : Backed e.tariffs supi groups L) (hN : NonNeg e.accts) :
    Backed e.tariffs supi (setRg groups u.rg out.st) (ledgerStep L u out.mui) ∧ NonNeg out.accts := by
  obtain ⟨x, hx, hg⟩ := o.granted b s hb ht
  have hcov : ((totalUsed u.cs * costOf s : Nat) : Int) ≤ resv groups u.rg := by
    have h1 := hB u.rg s hrg32 ht
    have h2 : totalUsed u.cs * costOf s ≤ lastGrant L u.rg * costOf s := Nat.mul_le_mul_right _ hc
    omega
  refine ⟨hB.set u.rg out.st (fun rg' hne => ?_) (fun s' _ hs' => ?_), o.nonneg (.inr hcov) hN⟩ <;>
    rw [hx] <;> simp only [ledgerStep, lastGrant_setGrant, if_true]
  · rw [if_neg hne]
  · rw [ht] at hs'; cases hs'; exact hg hcov

section
variable {e : Env} {a f : Bool} {accts : Abmf.Store} {tariffs : List Rating.Tariff} {supi : Bytes} {trigs : List Nat}
  {groups : List (Int × RgState)} {u : Usage}

theorem entryState_reserved (trigs : List Nat) (groups : List (Int × RgState)) (u : Usage) :
    (entryState trigs groups u).reserved = resv groups u.rg := by
  unfold entryState resv
  cases getRg groups u.rg <;> simp only <;> split <;> rfl

theorem usageStep_offline (hon : ¬ anyOnline u.cs = true) :
    usageStep e supi trigs groups u = (e.accts, setRg groups u.rg (entryState trigs groups u), none) := by
  unfold usageStep; simp [hon]

/-- money one online usage books, in terms of what the CHF reaches (`e`): reserve mode books the usage at the unit
    cost obtained; debit mode settles the price only when rating and account server both answer -/
def bookedIn (e : Env) (supi : Bytes) (st : RgState) (u : Usage) : Int :=
  if st.mode = 1 then ((totalUsed u.cs * getUnitCost e supi u.rg : Nat) : Int)
  else settledIn e supi u

/-- one online usage against any environment: the branch taken books exactly `bookedIn` -/
theorem usageStep_outcome (hon : anyOnline u.cs = true) (fit : UsageFit e supi (entryState trigs groups u) u) :
    ∃ out : RgOut, usageStep e supi trigs groups u = (out.accts, setRg groups u.rg out.st, out.mui) ∧
      Outcome e supi u (resv groups u.rg) out (bookedIn e supi (entryState trigs groups u) u) := by
  unfold usageStep bookedIn
  simp only [hon, not_true_eq_false, if_false]
  rw [← entryState_reserved trigs]
  rcases fit.mode with hm | hm
  · simp only [hm, if_true]
    exact ⟨_, rfl, reserve_outcome fit⟩
  · simp only [hm, show ¬ ((2 : Nat) = 1) by decide, if_false, if_true]
    exact ⟨_, rfl, debit_outcome fit⟩

/-! ### one usage under the specification's side conditions, whatever can be reached -/

/-- the specification's side conditions (`usageOKx`: a reachable server knows the subscriber and the products fit),
    read against what the CHF reaches; what is booked there is the specification's `accountedUsage` -/
theorem fit_of_OKx
    (ok : usageOKx a f { accts := accts, tariffs := tariffs } supi trigs groups u = true) (hon : anyOnline u.cs = true) :
    int32 u.rg ∧ UsageFit (seenEnv a f accts tariffs) supi (entryState trigs groups u) u ∧
    bookedIn (seenEnv a f accts tariffs) supi (entryState trigs groups u) u =
      (accountedUsage a f tariffs supi trigs groups u : Int) ∧
    (a = true → ∃ b, balOf accts supi (u32 u.rg) = some b) ∧
    (f = true → ∃ s, Rating.findCost tariffs supi (u32 u.rg) = some s) := by
  unfold usageOKx at ok
  simp only [hon, if_true, Bool.and_eq_true, decide_eq_true_eq] at ok
  obtain ⟨⟨⟨⟨⟨hs, hrg32⟩, hmode⟩, hrr⟩, hf⟩, ha⟩ := ok
  -- the rating server: reached, then it knows the tariff and the products fit; not reached, the unit cost is 1
  have hc : getUnitCost (seenEnv a f accts tariffs) supi u.rg = appliedCost f tariffs supi u := by
    rw [getUnitCost_eq hs]; cases f <;> rfl
  have hT : totalUsed u.cs * appliedCost f tariffs supi u < 4294967296 ∧
      reqVolOf u * appliedCost f tariffs supi u < 4294967296 ∧
      (f = true → ∃ s, Rating.findCost tariffs supi (u32 u.rg) = some s) := by
    unfold appliedCost
    cases f with
    | false => exact ⟨by simpa using totalUsed_lt u.cs, by simpa using reqVolOf_lt u, fun h => by cases h⟩
    | true =>
      cases ht : Rating.findCost tariffs supi (u32 u.rg) with
      | none => simp [ht] at hf
      | some s => simpa [ht] using hf
  -- the account server: reached, then it knows the account
  have hA : (∀ b, balOf (seenEnv a f accts tariffs).accts supi (u32 u.rg) = some b → Within61 b) ∧
      (a = true → ∃ b, balOf accts supi (u32 u.rg) = some b) := by
    cases a with
    | false => exact ⟨fun b h => (by cases h), fun h => (by cases h)⟩
    | true =>
      cases hb : balOf accts supi (u32 u.rg) with
      | none => simp [hb] at ha
      | some b0 => exact ⟨fun b h => by cases hb.symm.trans h; simpa [hb, Within61] using ha, fun _ => ⟨b0, rfl⟩⟩
  refine ⟨hrg32, ⟨hs, hmode, entryState_reserved trigs groups u ▸ hrr, hA.1, hc ▸ hT.1, hc ▸ hT.2.1⟩, ?_, hA.2, hT.2.2⟩
  unfold bookedIn accountedUsage
  rw [hc, if_pos hon]
  split
  · rfl
  -- a final price is settled only when both servers are reached (the account server then knows the account)
  cases a with
  | false => unfold settledIn; cases Rating.findCost (seenEnv false f accts tariffs).tariffs supi (u32 u.rg) <;> rfl
  | true =>
    cases f with
    | false => rfl
    | true =>
      obtain ⟨b, hb⟩ := hA.2 rfl
      simp only [settledIn, show seenEnv true true accts tariffs = ⟨accts, tariffs⟩ from rfl, hb, ratedUsage, hon, if_true]
      cases Rating.findCost tariffs supi (u32 u.rg) <;> rfl

theorem acctsNext_offline (hon : ¬ anyOnline u.cs = true) :
    acctsNext a f tariffs supi trigs accts groups u = accts := by
  unfold acctsNext; rw [usageStep_offline hon]; cases a <;> rfl

theorem usageOKx_up (h : usageOKb e supi trigs groups u = true) : usageOKx true true e supi trigs groups u = true := by
  unfold usageOKb at h
  unfold usageOKx
  by_cases hon : anyOnline u.cs = true
  · simp only [hon, if_true] at h ⊢
    cases hb : balOf e.accts supi (u32 u.rg) <;> cases ht : Rating.findCost e.tariffs supi (u32 u.rg) <;>
      simp only [hb, ht, Bool.and_eq_true, decide_eq_true_eq, Bool.false_eq_true] at h
    -- the same seven conjuncts, in the order of `usageOKx`
    obtain ⟨⟨⟨⟨⟨⟨hsupi, hused⟩, hreq⟩, hbal⟩, hres⟩, hrg⟩, hmode⟩ := h
    simp only [Bool.and_eq_true, decide_eq_true_eq]
    exact ⟨⟨⟨⟨⟨hsupi, hrg⟩, hmode⟩, hres⟩, ⟨hused, hreq⟩⟩, hbal⟩
  · simpa only [hon, Bool.false_eq_true, if_false] using h

theorem accountedUsage_up (h : usageOKx true true e supi trigs groups u = true) :
    accountedUsage true true e.tariffs supi trigs groups u = ratedUsage e.tariffs supi u := by
  unfold usageOKx at h
  unfold accountedUsage ratedUsage appliedCost
  by_cases hon : anyOnline u.cs = true
  · simp only [hon, if_true] at h ⊢
    cases ht : Rating.findCost e.tariffs supi (u32 u.rg) with
    | none => simp [ht] at h
    | some s =>
      simp only [Bool.and_self, if_true]
      split <;> rfl
  · simp only [hon, Bool.false_eq_true, if_false]

/-- One usage under the specification's side conditions, whatever can be reached.  `out` holds what it makes of the
    account store AS IT REALLY IS (an unreachable store is not written, whatever the branch returned), of the rating
    group and of the answer; everything C01 and C06 say of one usage is read off the three clauses after it. -/
theorem usage_x
    (ok : usageOKx a f { accts := accts, tariffs := tariffs } supi trigs groups u = true) :
    ∃ out : RgOut, acctsNext a f tariffs supi trigs accts groups u = out.accts ∧
      (usageStep (seenEnv a f accts tariffs) supi trigs groups u).2 = (setRg groups u.rg out.st, out.mui) ∧ int32 u.rg ∧
      Moves accts supi u.rg (resv groups u.rg) out (accountedUsage a f tariffs supi trigs groups u) ∧
      (¬ (a = true ∧ f = true) → NonNeg accts → NonNeg out.accts) ∧
      (a = true → f = true → ∀ L : Ledger, (anyOnline u.cs = true → totalUsed u.cs ≤ lastGrant L u.rg) →
        Backed tariffs supi groups L → NonNeg accts →
        Backed tariffs supi (setRg groups u.rg out.st) (ledgerStep L u out.mui) ∧ NonNeg out.accts) := by
  by_cases hon : anyOnline u.cs = true
  · obtain ⟨hrg32, fit, hbook, hA, hT⟩ := fit_of_OKx ok hon
    obtain ⟨out, hstep, o⟩ := usageStep_outcome hon fit
    rw [hbook] at o
    cases a with
    | false =>
      -- no account is reached: the reservation alone moves
      exact ⟨{ out with accts := accts }, rfl, by rw [hstep], hrg32, .idle ⟨rfl, (o.moves.unknown rfl).2⟩, fun _ hN => hN,
        fun h => by cases h⟩
    | true =>
      refine ⟨out, by unfold acctsNext; rw [hstep]; rfl, by rw [hstep], hrg32, o.moves, fun hd => o.nonneg (.inl ?_), ?_⟩
      · rintro ⟨_, s, _, hs⟩
        cases f with
        | false => cases hs
        | true => exact hd ⟨rfl, rfl⟩
      · rintro - rfl L hc hB hN
        obtain ⟨b, hb⟩ := hA rfl
        obtain ⟨s, ht⟩ := hT rfl
        rw [accountedUsage_up (e := { accts := accts, tariffs := tariffs }) ok] at o
        simp only [ratedUsage, hon, if_true, ht] at o
        exact o.safe hrg32 hb ht (hc hon) hB hN
  · have h0 : accountedUsage a f tariffs supi trigs groups u = 0 := by unfold accountedUsage; simp [hon]
    have hrg32 : int32 u.rg := by unfold usageOKx at ok; unfold int32; simpa [hon] using ok
    rw [acctsNext_offline hon, usageStep_offline hon, h0]
    exact ⟨⟨accts, entryState trigs groups u, none⟩, rfl, rfl, hrg32,
      .idle ⟨rfl, by rw [entryState_reserved]; simp⟩, fun _ hN => hN, fun _ _ L _ hB hN =>
        ⟨hB.set u.rg _ (fun _ _ => rfl) fun s' hrg hs' => by rw [entryState_reserved]; exact hB u.rg s' hrg hs', hN⟩⟩

/-- What an update or release makes of the account store and of the subscriber's rating groups (`acctsAfter`,
    `seenAccts`, `seenTariffs` of the state written out): an unreachable store is not written, whatever the CHF was told. -/
def ccX (a f : Bool) (tariffs : List Rating.Tariff) (supi : Bytes) (trigs : List Nat) (accts : Abmf.Store)
    (groups : List (Int × RgState)) (us : List Usage) : Abmf.Store × List (Int × RgState) :=
  (if a then (creditControl (if f then tariffs else []) supi trigs (if a then accts else []) groups us).1 else accts,
    (creditControl (if f then tariffs else []) supi trigs (if a then accts else []) groups us).2.1)

theorem ccX_nil : ccX a f tariffs supi trigs accts groups [] = (accts, groups) := by
  cases a <;> rfl

/-- `ccX` walks the usage list as the specification's `ccOKx` and `accountedList` do -/
theorem ccX_cons {r : List Usage} :
    ccX a f tariffs supi trigs accts groups (u :: r) =
      ccX a f tariffs supi trigs (acctsNext a f tariffs supi trigs accts groups u)
        (usageStep (seenEnv a f accts tariffs) supi trigs groups u).2.1 r := by
  cases a with
  | true => rfl
  | false =>
    -- the store the CHF sees stays empty along the loop
    have hnil := usageStep_unreachable (if f then tariffs else []) supi trigs groups u
    simp only [ccX, creditControl, acctsNext, seenEnv, Bool.false_eq_true, if_false, hnil]

/-- `usage_x` along the usage loop: `a'`, `g'` are what `ccX` leaves -/
theorem ccX_spec {us : List Usage} :
    ∀ {accts : Abmf.Store} {groups : List (Int × RgState)}, ccOKx a f tariffs supi trigs accts groups us = true →
    ∀ {a' : Abmf.Store} {g' : List (Int × RgState)}, ccX a f tariffs supi trigs accts groups us = (a', g') →
    (∀ rg, int32 rg → moneyOf a' g' supi rg =
      (moneyOf accts groups supi rg).map (fun m => m - accountedList a f tariffs supi trigs rg accts groups us)) ∧
    (∀ supi' rg', supi' ≠ supi → balOf a' supi' rg' = balOf accts supi' rg') ∧
    (¬ (a = true ∧ f = true) → NonNeg accts → NonNeg a') ∧
    (a = true → f = true → ∀ L : Ledger, compliantCC tariffs supi trigs accts groups L us = true →
      Backed tariffs supi groups L → NonNeg accts →
      Backed tariffs supi g' (ledgerCC tariffs supi trigs accts groups L us) ∧ NonNeg a') := by
  induction us with
  | nil =>
    intro accts groups _ a' g' e
    rw [ccX_nil] at e; cases e
    exact ⟨fun _ _ => by simp only [accountedList, Int.sub_zero, Option.map_id'], fun _ _ _ => rfl, fun _ hN => hN,
      fun _ _ _ _ hB hN => ⟨hB, hN⟩⟩
  | cons u r ih =>
    intro accts groups hok a' g' e
    simp only [ccOKx, Bool.and_eq_true] at hok
    obtain ⟨out, e1, e2, hrg32, m, n1, s1⟩ := usage_x hok.1
    simp only [ccX_cons, e1, e2] at hok e
    obtain ⟨m2, f2, n2, s2⟩ := ih hok.2 e
    simp only [accountedList, e1, e2]
    refine ⟨fun rg hrg => ?_, fun supi' rg' hne => by rw [f2 _ _ hne, m.frame _ _ fun h => hne h.1],
      fun hd hN => n2 hd (n1 hd hN), ?_⟩
    · rw [m2 rg hrg, m.moneyOf hrg hrg32]
      exact Option.map_map_eq fun m => by omega
    · rintro rfl rfl L hcomp hB hN
      -- with both servers reached the specification's walk is the model's own
      have e : usageStep { accts := accts, tariffs := tariffs } supi trigs groups u =
          (out.accts, setRg groups u.rg out.st, out.mui) := Prod.ext e1 e2
      simp only [compliantCC, ledgerCC, e, Bool.and_eq_true, Bool.or_eq_true, Bool.not_eq_true', decide_eq_true_eq]
        at hcomp ⊢
      obtain ⟨hB', hN'⟩ := s1 rfl rfl L (fun hon => hcomp.1.resolve_left (by simp [hon])) hB hN
      exact s2 rfl rfl _ hcomp.2 hB' hN'

theorem ccOKx_up {us : List Usage} :
    ∀ {accts : Abmf.Store} {groups : List (Int × RgState)}, ccOKb tariffs supi trigs accts groups us = true →
    ccOKx true true tariffs supi trigs accts groups us = true := by
  induction us with
  | nil => intro _ _ _; rfl
  | cons u r ih =>
    intro accts groups h
    simp only [ccOKb, ccOKx, Bool.and_eq_true] at h ⊢
    exact ⟨usageOKx_up h.1, ih h.2⟩

theorem accountedList_up {rg : Int} {us : List Usage} :
    ∀ {accts : Abmf.Store} {groups : List (Int × RgState)}, ccOKx true true tariffs supi trigs accts groups us = true →
    accountedList true true tariffs supi trigs rg accts groups us = ratedList tariffs supi rg us := by
  induction us with
  | nil => intro _ _ _; rfl
  | cons u r ih =>
    intro accts groups h
    simp only [ccOKx, Bool.and_eq_true] at h
    simp only [accountedList, ratedList]
    rw [ih h.2, accountedUsage_up (e := { accts := accts, tariffs := tariffs }) h.1]

end

end Chf.Charging
