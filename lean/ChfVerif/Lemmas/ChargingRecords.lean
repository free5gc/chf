import ChfVerif.Lemmas.ChargingSessions
/- record bookkeeping over whole histories: what is recorded is what accepted requests reported (C02); and what a request
   answered 4xx leaves behind (`rejected_same`, `rejected_view`: C12, C11) -/
namespace Chf.Charging
open Chf

/-- everything recorded for a subscriber, record after record -/
def ueUsage (u : Ue) : List RecUsage := (u.records.map (·.usage)).flatten

def usageOf (s : State) (supi : Bytes) : List RecUsage :=
  match findUe s.ues supi with
  | some u => ueUsage u
  | none => []

/-- every session reference designates an existing record -/
def IdxOK (u : Ue) : Prop := ∀ p ∈ u.cdr, p.2 < u.records.length

def AllIdxOK (s : State) : Prop := ∀ u ∈ s.ues, IdxOK u

theorem flatten_map_set {α β : Type} (f : α → List β) (l : List α) (i : Nat) (a' : α) (x : List β) (h : i < l.length)
    (he : f a' = f l[i] ++ x) : List.Perm ((l.set i a').map f).flatten ((l.map f).flatten ++ x) := by
  have e : l = l.take i ++ l[i] :: l.drop (i + 1) := by rw [List.getElem_cons_drop h, List.take_append_drop]
  rw [List.set_eq_take_append_cons_drop, if_pos h]
  conv => rhs; rw [e]
  simp only [List.map_append, List.map_cons, List.flatten_append, List.flatten_cons, he, List.append_assoc]
  -- A ++ (u ++ (x ++ D)) ~ A ++ (u ++ (D ++ x))
  exact List.Perm.append_left _ (List.Perm.append_left _ List.perm_append_comm)

theorem RecStep.usage {n n' cdr rs cdr' rs' key x} (h : RecStep n cdr rs cdr' rs' n' key x)
    (hidx : ∀ p ∈ cdr, p.2 < rs.length) :
    List.Perm ((rs'.map (·.usage)).flatten) ((rs.map (·.usage)).flatten ++ x) := by
  cases h with
  | keep | event | opened | split => simp
  | append k idx rec x hl hs hx | close k idx rec x hl hs hx =>
    have hlt := hidx _ (mem_of_lookupSid hl)
    exact flatten_map_set (·.usage) rs idx rec x hlt (by rw [hx, ← List.getElem_eq_getD])

theorem usageOf_eq (s : State) (supi : Bytes) : usageOf s supi = ueUsage (ueOf s supi) := by
  unfold usageOf ueOf; cases findUe s.ues supi <;> simp [ueUsage]

theorem SessInv.allIdxOK {s : State} (h : SessInv s) : AllIdxOK s := fun u hu => (h u hu).idx

theorem usage_step (guard : SplitGuard) (s : State) (op : Op) (supi : Bytes) (hinv : AllIdxOK s) :
    List.Perm (usageOf (step guard s op).1 supi) (usageOf s supi ++ contributed guard s op supi) := by
  rw [usageOf_eq, usageOf_eq]
  rcases step_shape guard s op with i | ⟨supi', u', key, x, w⟩
  · rw [i.contrib, i.ueOf]; simp
  · rw [w.contrib, w.ueOf]
    by_cases e : supi = supi'
    · subst e
      rw [if_pos rfl, if_pos rfl]
      exact w.recs.usage (ueOf_of_ues hinv (fun _ _ hp => nomatch hp) supi)
    · rw [if_neg e, if_neg (Ne.symm e)]; simp

/-- what a history contributes, operation after operation -/
def contributedRun (guard : SplitGuard) (supi : Bytes) : State → List Op → List RecUsage
  | _, [] => []
  | s, op :: r => contributed guard s op supi ++ contributedRun guard supi (step guard s op).1 r

/-- every history: what is recorded for a subscriber is, as a multiset, exactly what the accepted requests of
    that subscriber reported — nothing lost, nothing recorded twice, nothing foreign -/
theorem usage_run (guard : SplitGuard) (supi : Bytes) (ops : List Op) :
    ∀ s, SessInv s → List.Perm (usageOf (run guard s ops) supi) (usageOf s supi ++ contributedRun guard supi s ops) := by
  induction ops with
  | nil => intro s _; simp [run, contributedRun]
  | cons op r ih =>
    intro s h
    simp only [run, contributedRun]
    refine (ih _ (SessInv_step guard s op h)).trans ?_
    rw [← List.append_assoc]
    exact List.Perm.append_right _ (usage_step guard s op supi h.allIdxOK)

/-! ### rejected requests -/

/-- what a subscriber context holds of money and records: reservations / rating modes, session map, records
    (a subscriber without context holds nothing) -/
def ueView (s : State) (supi : Bytes) : List (Int × RgState) × List (Bytes × Nat) × List Record :=
  match findUe s.ues supi with
  | some u => (u.groups, u.cdr, u.records)
  | none => ([], [], [])

theorem ueView_eq (s : State) (supi : Bytes) :
    ueView s supi = ((ueOf s supi).groups, (ueOf s supi).cdr, (ueOf s supi).records) := by
  unfold ueView ueOf; cases findUe s.ues supi <;> rfl

/-- a request answered 4xx leaves the state as it was, unless it is a create that OpenCDR refused -/
theorem rejected_same (guard : SplitGuard) (s : State) (op : Op)
    (h4 : (step guard s op).2.status = 400 ∨ (step guard s op).2.status = 404)
    (hnb : ∀ r, op = .create r → r.bad = false) : (step guard s op).1 = s := by
  rcases step_shape guard s op with i | ⟨_, u', key, x, w⟩
  · rcases i.answer with ⟨_, e⟩ | ⟨a, b, c, rfl⟩
    · rw [i.same, e]
    · rw [credit_status] at h4; omega
  · rcases w.accepted with h | ⟨r, rfl, hb, _⟩
    · omega
    · rw [hnb r rfl] at hb; cases hb

/-- every request answered 4xx - the creates refused by OpenCDR included - leaves the accounts, the tariffs, the
    record numbering and every subscriber's reservations, rating modes, session map and records as they were -/
theorem rejected_view (guard : SplitGuard) (s : State) (op : Op)
    (h4 : (step guard s op).2.status = 400 ∨ (step guard s op).2.status = 404) :
    (step guard s op).1.accts = s.accts ∧ (step guard s op).1.tariffs = s.tariffs ∧
    (step guard s op).1.localSeq = s.localSeq ∧ ∀ supi, ueView (step guard s op).1 supi = ueView s supi := by
  rcases step_shape guard s op with i | ⟨_, u', key, x, w⟩
  · rcases i.answer with ⟨_, e⟩ | ⟨a, b, c, rfl⟩
    · rw [i.same, e]; exact ⟨rfl, rfl, rfl, fun _ => rfl⟩
    · rw [credit_status] at h4; omega
  · rcases w.accepted with h | ⟨r, rfl, _, rfl, e⟩
    · omega
    · -- a refused create stores the context it found (an empty one for an unknown subscriber)
      refine ⟨by rw [e], by rw [e], by rw [e], fun supi => ?_⟩
      rw [ueView_eq, ueView_eq, w.ueOf]
      split
      · rename_i hs; rw [hs]
      · rfl

end Chf.Charging
