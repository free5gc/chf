import ChfVerif.Lemmas.RecordBer
import ChfVerif.Lemmas.BerStructRT
import ChfVerif.Lemmas.X690WellFormed
import ChfVerif.Spec.BerSpec
/-
  The value OpenCDR / UpdateCDR build is within the domain of the encoder theorems (C04: every integer an int64,
  no BIT STRING) and of the round-trip theorem (C05: canonical for the regenerated type CHFRecord) — for every
  record whose integers are what Go can hold (`RecInt64`); and its encoding is made of octets when its strings are
  (`recordEnc_ok`, what the file model of C03 asks of a payload).
-/
namespace Chf.RecordBer
open Chf Chf.Ber Chf.Charging Chf.X690

def ContInt64 (c : Container) : Prop := int64 c.total ∧ int64 c.up ∧ int64 c.down ∧ int64 c.ssu ∧ int64 c.lsn

def UsageInt64 (u : RecUsage) : Prop := int64 u.rg ∧ ∀ c ∈ u.cs, ContInt64 c

/-- every integer of the record fits the Go type that holds it (int64 / *int64 members of cdrType.ChargingRecord) -/
def RecInt64 (e : RecEnv) (r : Record) : Prop :=
  int64 e.functionality ∧ int64 r.cid ∧ int64 (r.lsn : Int) ∧ int64 (r.cause : Int) ∧
  (∀ n, r.rsn = some n → int64 (n : Int)) ∧ (∀ u ∈ r.usage, UsageInt64 u) ∧
  (∀ d, e.pdu = some d → int64 d.chargingId ∧ int64 d.sessionId ∧ int64 d.sst)

theorem canon_int64 {i : Int} (h : int64 i) : Canon (.int 64) (.int i) := .int h (truncInt_of_ge (Nat.le_refl 64) i)

theorem canon_container (c : Container) (h : ContInt64 c) : Canon Gen.T_UsedUnitContainer (containerVal c) := by
  obtain ⟨h1, h2, h3, h4, h5⟩ := h
  exact .struct (.absent rfl (.absent rfl (.absent rfl (.absent rfl
    (.present (.ptr (.wrap (canon_int64 h1))) (.present (.ptr (.wrap (canon_int64 h2))) (.present (.ptr (.wrap (canon_int64 h3)))
    (.present (.ptr (canon_int64 h4)) (.absent rfl (.present (.ptr (.wrap (canon_int64 h5)))
    (.absent rfl (.absent rfl (.absent rfl (.absent rfl (.absent rfl (.absent rfl .nil))))))))))))))))

theorem canon_containers (cs : List Container) (h : ∀ c ∈ cs, ContInt64 c) :
    CanonList Gen.T_UsedUnitContainer (containerVals cs) := by
  induction cs with
  | nil => exact .nil
  | cons c r ih =>
    exact .cons (canon_container c (h c (by simp))) (ih (fun x hx => h x (by simp [hx])))

theorem canon_usage (u : RecUsage) (h : UsageInt64 u) : Canon Gen.T_MultipleUnitUsage (usageVal u) :=
  .struct (.present (.wrap (canon_int64 h.1)) (.present (.slice (canon_containers u.cs h.2))
    (.present (.ptr (.wrap .str)) (.absent rfl .nil))))

theorem canon_usages (us : List RecUsage) (h : ∀ u ∈ us, UsageInt64 u) :
    CanonList Gen.T_MultipleUnitUsage (usageVals us) := by
  induction us with
  | nil => exact .nil
  | cons u r ih => exact .cons (canon_usage u (h u (by simp))) (ih (fun x hx => h x (by simp [hx])))

/-- an OPTIONAL member that is either absent or canonical -/
theorem canonFields_opt {p : Params} {t : Ty} {r : Fields} {v : Val} {vs : Vals} (ho : p.optional = true)
    (h : v = .nil ∨ Canon t v) (hr : CanonFields r vs) : CanonFields (.cons p t r) (.cons v vs) := by
  rcases h with rfl | h
  · exact .absent ho hr
  · exact .present h hr

theorem canon_optBytes {t : Ty} (h : ∀ b, Canon t (.bytes b)) : ∀ o, optBytes o = .nil ∨ Canon t (optBytes o)
  | none => .inl rfl
  | some b => .inr (h b)

theorem canon_optStr {t : Ty} (h : ∀ b, Canon t (.str b)) : ∀ o, optStr o = .nil ∨ Canon t (optStr o)
  | none => .inl rfl
  | some b => .inr (h b)

theorem canon_ipText {present : Int} (hp : present = 3 ∨ present = 4) :
    ∀ o, ipTextVal present o = .nil ∨ Canon (.ptr Gen.T_IPAddress) (ipTextVal present o)
  | none => .inl rfl
  | some a => .inr <| by
    rcases hp with rfl | rfl
    · exact .ptr (.choice (v := .str a) (by decide) (.there (.there (.here (.ptr .str)))) rfl rfl)
    · exact .ptr (.choice (v := .str a) (by decide) (.there (.there (.there (.here (.ptr .str))))) rfl rfl)

theorem canon_fqdnVal : ∀ o, fqdnVal o = .nil ∨ Canon (.ptr Gen.T_NodeAddress) (fqdnVal o)
  | none => .inl rfl
  | some a => .inr (.ptr (.choice (v := .str a) (by decide) (.there (.here (.ptr .str))) rfl rfl))

theorem canon_nfi (e : RecEnv) (r : Record) (hf : int64 e.functionality) :
    Canon Gen.T_NetworkFunctionInformation (nfiVal e r) :=
  .struct <| .present (.wrap (.enum hf)) <|
    canonFields_opt rfl (canon_optStr (fun _ => .ptr (.wrap .str)) r.nf) <|
    canonFields_opt rfl (canon_ipText (.inl rfl) e.v4) <|
    canonFields_opt rfl (canon_optBytes (fun _ => .ptr (.wrap .octets)) e.plmn) <|
    canonFields_opt rfl (canon_ipText (.inr rfl) e.v6) <|
    canonFields_opt rfl (canon_fqdnVal e.fqdn) .nil

theorem canon_pdu : ∀ o : Option Pdu, (∀ d, o = some d → int64 d.chargingId ∧ int64 d.sessionId ∧ int64 d.sst) →
    pduVal o = .nil ∨ Canon (.ptr Gen.T_PDUSessionChargingInformation) (pduVal o)
  | none, _ => .inl rfl
  | some d, h => .inr <| by
    obtain ⟨h1, h2, h3⟩ := h d rfl
    refine .ptr (.struct ?_)
    refine .present (.wrap (canon_int64 h1)) ?_
    iterate 5 refine .absent rfl ?_
    refine .present (.wrap (canon_int64 h2)) ?_
    refine .present (.ptr (.struct (.present (.wrap (canon_int64 h3)) (.present (.ptr (.wrap .octets)) .nil)))) ?_
    iterate 5 refine .absent rfl ?_
    refine .present (.ptr (.wrap .str)) ?_
    iterate 23 refine .absent rfl ?_
    exact .nil

theorem canon_reg : ∀ b, regVal b = .nil ∨ Canon (.ptr Gen.T_RegistrationChargingInformation) (regVal b)
  | false => .inl rfl
  | true => .inr <| by
    refine .ptr (.struct ?_)
    refine .present (.wrap (.enum ⟨by decide, by decide⟩)) ?_
    iterate 22 refine .absent rfl ?_
    exact .nil

theorem canon_rsn : ∀ o : Option Nat, (∀ n, o = some n → int64 (n : Int)) →
    rsnVal o = .nil ∨ Canon (.ptr (.int 64)) (rsnVal o)
  | none, _ => .inl rfl
  | some n, h => .inr (.ptr (canon_int64 (h n rfl)))

theorem canon_usageList (el : Bool) (us : List RecUsage) (h : ∀ u ∈ us, UsageInt64 u) :
    usageListVal el us = .nil ∨ Canon (.slice Gen.T_MultipleUnitUsage) (usageListVal el us) :=
  match el, us, canon_usages us h with
  | false, [], _ => .inl rfl
  | true, [], _ => .inr (.slice .nil)
  | _, _ :: _, hU => .inr (.slice hU)

theorem canon_record (e : RecEnv) (r : Record) (h : RecInt64 e r) : Canon Gen.T_CHFRecord (recordVal e r) := by
  obtain ⟨hf, hcid, hlsn, hcause, hrsn, hus, hpdu⟩ := h
  -- the 28 members of ChargingRecord, in schema order
  refine .choice (v := chargingRecordVal e r) (by decide) (.here (.ptr (.struct ?_))) rfl rfl
  refine .present (.wrap (canon_int64 ⟨by decide, by decide⟩)) ?_
  refine .present (.wrap .str) ?_
  refine .present (.ptr (.struct (.present (.wrap (.enum ⟨by decide, by decide⟩)) (.present .str .nil)))) ?_
  refine .present (canon_nfi e r hf) ?_
  refine .absent rfl ?_
  refine canonFields_opt rfl (canon_usageList e.emptyList r.usage hus) ?_
  refine .present (.wrap .octets) ?_
  refine .present (.wrap (canon_int64 ⟨by decide, by decide⟩)) ?_
  refine canonFields_opt rfl (canon_rsn r.rsn hrsn) ?_
  refine .present (.wrap (canon_int64 hcause)) ?_
  refine .absent rfl ?_
  refine .present (.ptr (.wrap (canon_int64 hlsn))) ?_
  refine .absent rfl ?_
  refine canonFields_opt rfl (canon_pdu e.pdu hpdu) ?_
  iterate 2 refine .absent rfl ?_
  refine canonFields_opt rfl (canon_optBytes (fun _ => .ptr (.wrap .octets)) r.sid) ?_
  refine canonFields_opt rfl (canon_optBytes (fun _ => .ptr .octets) e.svcSpec) ?_
  refine .absent rfl ?_
  refine canonFields_opt rfl (canon_reg e.registration) ?_
  iterate 7 refine .absent rfl ?_
  exact .present (.ptr (.wrap (canon_int64 hcid))) .nil

/-! ### the domain of the encoder theorems (C04) -/

theorem valOK_record (e : RecEnv) (r : Record) (h : RecInt64 e r) : valOK (recordVal e r) = true :=
  (canon_record e r h).valOK

theorem bitsOKs_ofList (l : List Val) : bitsOKs (Vals.ofList l) = l.all bitsOK := by
  induction l with
  | nil => rfl
  | cons v r ih => rw [Vals.ofList, bitsOKs, ih, List.all_cons]

theorem bitsOK_nils (n : Nat) : (nils n).all bitsOK = true := by
  induction n with
  | zero => rfl
  | succ n ih => rw [nils, List.all_cons, ih]; rfl

theorem bitsOK_containers (cs : List Container) : bitsOKs (containerVals cs) = true := by
  induction cs with
  | nil => rfl
  | cons c r ih => simp [containerVals, containerVal, bitsOKs, bitsOK, bitsOKs_ofList, bitsOK_nils, ih]

theorem bitsOK_usages (us : List RecUsage) : bitsOKs (usageVals us) = true := by
  induction us with
  | nil => rfl
  | cons u r ih => simp [usageVals, usageVal, bitsOKs, bitsOK, bitsOKs_ofList, ih, bitsOK_containers]

theorem bitsOK_record (e : RecEnv) (r : Record) : bitsOK (recordVal e r) = true := by
  have hbytes : ∀ o, bitsOK (optBytes o) = true := fun o => by cases o <;> rfl
  have hstr : ∀ o, bitsOK (optStr o) = true := fun o => by cases o <;> rfl
  have hip : ∀ k o, bitsOK (ipTextVal k o) = true := fun k o => by
    cases o <;> simp [ipTextVal, bitsOK, bitsOKs_ofList, bitsOK_nils]
  have hfqdn : ∀ o, bitsOK (fqdnVal o) = true := fun o => by cases o <;> rfl
  have hrsn : ∀ o, bitsOK (rsnVal o) = true := fun o => by cases o <;> rfl
  have hpdu : ∀ o, bitsOK (pduVal o) = true := fun o => by
    cases o <;> simp [pduVal, bitsOK, bitsOKs_ofList, bitsOK_nils]
  have hreg : ∀ b, bitsOK (regVal b) = true := fun b => by
    cases b <;> simp [regVal, bitsOK, bitsOKs_ofList, bitsOK_nils]
  have hlist : bitsOK (usageListVal e.emptyList r.usage) = true := by
    unfold usageListVal
    split
    · split <;> rfl
    · exact bitsOK_usages _
  simp [recordVal, chargingRecordVal, nfiVal, bitsOK, bitsOKs, bitsOKs_ofList, bitsOK_nils, hbytes, hstr, hip, hfqdn, hrsn, hpdu,
    hreg, hlist]

theorem ipTextVal_none (k : Int) : ipTextVal k none = .nil := rfl
theorem fqdnVal_none : fqdnVal none = .nil := rfl
theorem pduVal_none : pduVal none = .nil := rfl
theorem regVal_none : regVal false = .nil := rfl

end Chf.RecordBer

namespace Chf.RecordBer
open Chf Chf.Ber Chf.Charging

/-! ### every octet written is an octet (the file model works on `Nat` lists) -/

theorem ok_append_iff {a b : Bytes} : Bytes.ok (a ++ b) ↔ Bytes.ok a ∧ Bytes.ok b := List.forall_mem_append

theorem ok_nil : Bytes.ok [] := by intro x hx; cases hx

theorem lenDigits_ok (n f : Nat) : Bytes.ok (lenDigits n f) ∧ (lenDigits n f).length ≤ f + 1 :=
  lenDigits_eq_digits f n ▸ ⟨digits_lt 256 (by decide) f n, length_digits_le_fuel 256 f n⟩

theorem intOctets_ok (i : Int) (n : Nat) : Bytes.ok (intOctets i n) := by
  induction n generalizing i with
  | zero => exact ok_nil
  | succ n ih =>
    unfold intOctets
    exact ok_append_iff.mpr ⟨ih _, by intro x hx; simp at hx; omega⟩

theorem intBytes_ok (i : Int) : Bytes.ok (intBytes i) := intOctets_ok _ _

theorem highTag_ok (t : Nat) : Bytes.ok (highTag t) := by
  obtain ⟨init, hd, e⟩ := highTag_eq t
  have hlt := digits_lt 128 (by decide) 10 t
  rw [hd] at hlt; rw [e]
  intro x hx
  rcases List.mem_append.mp hx with h | h
  · obtain ⟨d, hd', rfl⟩ := List.mem_map.mp h
    have := hlt d (List.mem_append_left _ hd'); omega
  · have := hlt x (List.mem_append_right _ h); omega

theorem header_ok {cls : Nat} (c : Bool) (tag n : Nat) (hc : cls ≤ 3) : Bytes.ok (header cls c tag n) := by
  have hd := lenDigits_ok n 8
  have ht := highTag_ok tag
  unfold header
  refine ok_append_iff.mpr ⟨?_, ?_⟩ <;> split <;> intro x hx
  · simp at hx; subst hx; split <;> omega
  · rcases List.mem_cons.mp hx with rfl | h
    · split <;> omega
    · exact ht x h
  · simp at hx; omega
  · rcases List.mem_cons.mp hx with rfl | h
    · have := hd.2; omega
    · exact hd.1 x h

theorem tlv_ok_iff {cls : Nat} {c : Bool} {tag : Nat} {content : Bytes} (hc : cls ≤ 3) :
    Bytes.ok (tlv cls c tag content) ↔ Bytes.ok content :=
  ⟨fun h => (ok_append_iff.mp h).2, fun h => ok_append_iff.mpr ⟨header_ok c tag _ hc, h⟩⟩

theorem intF_ok (k : Nat) (i : Int) : Bytes.ok (intF k i) := (tlv_ok_iff (by decide)).mpr (intBytes_ok i)

theorem optF_ok_iff (k : Nat) (o : Option Bytes) : Bytes.ok (optF 2 k o) ↔ ∀ b, o = some b → Bytes.ok b := by
  cases o <;> simp [optF, tlv_ok_iff, ok_nil]

theorem ipEnc_ok_iff (k j : Nat) (o : Option Bytes) : Bytes.ok (ipEnc k j o) ↔ ∀ b, o = some b → Bytes.ok b := by
  cases o <;> simp [ipEnc, tlv_ok_iff, ok_nil]

theorem contsEnc_ok (cs : List Container) : Bytes.ok (contsEnc cs) := by
  induction cs with
  | nil => exact ok_nil
  | cons c r ih => simp [contsEnc, contEnc, ok_append_iff, tlv_ok_iff, intF_ok, ih]

theorem usagesEnc_ok_iff (us : List RecUsage) : Bytes.ok (usagesEnc us) ↔ ∀ u ∈ us, Bytes.ok u.upf := by
  induction us with
  | nil => simp [usagesEnc, ok_nil]
  | cons u r ih => simp [usagesEnc, usageEnc, ok_append_iff, tlv_ok_iff, intF_ok, contsEnc_ok, ih]

/-- the strings of the record are octet strings -/
def RecOctets (e : RecEnv) (r : Record) : Prop :=
  Bytes.ok e.nfId ∧ Bytes.ok e.openTime ∧ Bytes.ok r.subData ∧ (∀ b, r.nf = some b → Bytes.ok b) ∧
  (∀ b, r.sid = some b → Bytes.ok b) ∧ (∀ u ∈ r.usage, Bytes.ok u.upf) ∧
  (∀ b, e.v4 = some b → Bytes.ok b) ∧ (∀ b, e.plmn = some b → Bytes.ok b) ∧ (∀ b, e.v6 = some b → Bytes.ok b) ∧
  (∀ b, e.fqdn = some b → Bytes.ok b) ∧ (∀ b, e.svcSpec = some b → Bytes.ok b) ∧
  (∀ d, e.pdu = some d → Bytes.ok d.sd ∧ Bytes.ok d.dnn)

theorem recordEnc_ok (e : RecEnv) (r : Record) (h : RecOctets e r) : Bytes.ok (recordEnc e r) := by
  obtain ⟨h1, h2, h3, h4, h5, h6, h7, h8, h9, h10, h11, h12⟩ := h
  have hl : Bytes.ok (usageListEnc e.emptyList r.usage) := by
    unfold usageListEnc
    split
    · split <;> simp [tlv_ok_iff, ok_nil]
    · rw [tlv_ok_iff (by decide), usagesEnc_ok_iff]; exact h6
  have hrsn : Bytes.ok (match r.rsn with | some n => intF 8 n | none => []) := by
    cases r.rsn <;> simp [intF_ok, ok_nil]
  have hpdu : Bytes.ok (pduEnc e.pdu) := by
    cases hp : e.pdu with
    | none => exact ok_nil
    | some d => simp [pduEnc, ok_append_iff, tlv_ok_iff, intF_ok, h12 d hp]
  have hreg : Bytes.ok (regEnc e.registration) := by
    cases e.registration <;> simp [regEnc, tlv_ok_iff, intBytes_ok, ok_nil]
  -- octet by octet is member by member: the goal becomes one conjunct for each member of the closed form
  simp only [recordEnc, recordContent, nfiEnc, ok_append_iff, tlv_ok_iff (show 2 ≤ 3 by decide), optF_ok_iff, ipEnc_ok_iff]
  exact ⟨intF_ok _ _, h1, ⟨intBytes_ok _, h3, ok_nil⟩, ⟨intBytes_ok _, h4, h7, h8, h9, h10, ok_nil⟩, hl, h2, intF_ok _ _, hrsn,
    intF_ok _ _, intF_ok _ _, hpdu, h5, h11, hreg, intF_ok _ _, ok_nil⟩

end Chf.RecordBer
