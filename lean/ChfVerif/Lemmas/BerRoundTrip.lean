import ChfVerif.Lemmas.BerParseHeader
import ChfVerif.Lemmas.BerShape
/- round-trip lemmas: what the decoder reads back from what the encoder wrote (C05) — one element (`talOf`, `enter_tlv`,
   `enter_explicit`), an element finished under any tagging (`enter_finish`), every primitive (`prim_roundtrip`) -/
namespace Chf.Ber
open Chf

/-- the header `parseTagAndLength` reports for `tlv cls c tag content` -/
def talOf (cls : Nat) (c : Bool) (tag : Nat) (content : Bytes) : Tal :=
  ⟨cls, c, tag, content.length, (header cls c tag content.length).length⟩

section
variable (t : Ty) (q : Params) (cls : Nat) (c : Bool) (tag : Nat) (content : Bytes)

theorem talOf_end :
    (talOf cls c tag content).off + (talOf cls c tag content).len = (tlv cls c tag content).length :=
  (tlv_length cls c tag content).symm

theorem parse_tlv_append (rest : Bytes) (htag : tag < 9223372036854775808) (hlen : content.length < 9223372036854775808) :
    parseTagAndLength (tlv cls c tag content ++ rest) = .ok (talOf cls c tag content) := by
  unfold tlv
  rw [List.append_assoc]
  exact parse_header cls c tag content.length (content ++ rest) htag hlen (by simp; omega)

theorem parse_tlv (htag : tag < 9223372036854775808) (hlen : content.length < 9223372036854775808) :
    parseTagAndLength (tlv cls c tag content) = .ok (talOf cls c tag content) :=
  List.append_nil (tlv cls c tag content) ▸ parse_tlv_append cls c tag content [] htag hlen

theorem sub_prefix (a r : Bytes) : sub (a ++ r) 0 a.length = .ok a := by
  simpa using sub_at [] a r

theorem from_append (a r : Bytes) : from_ (a ++ r) a.length = .ok r := by
  unfold from_; simp

theorem from_tlv : from_ (tlv cls c tag content) (talOf cls c tag content).off = .ok content :=
  from_append _ content

theorem sub_tlv :
    sub (tlv cls c tag content) (talOf cls c tag content).off
      ((talOf cls c tag content).off + (talOf cls c tag content).len) = .ok content := by
  have := sub_at (header cls c tag content.length) content []
  rwa [List.append_nil] at this

theorem tagOk_tagged {t : Ty} {q : Params} {n : Nat} (hq : q.tagNumber = some n) (c : Bool) (content : Bytes) :
    tagOk t q (talOf 2 c n content) = true := by
  simp [tagOk, hq, talOf]

theorem enter_of_parse {t : Ty} {p : Params} {b : Bytes} {tal : Tal} (hp : parseTagAndLength b = .ok tal)
    (hend : tal.off + tal.len = b.length) (htok : tagOk t p tal = true) :
    enter t p b = if needsUnwrap t p then enterInner t p b tal else .ok (b, p, tal) := by
  rw [enter_eq hp, hend, if_neg (Nat.lt_irrefl _), htok, List.take_length]; rfl

theorem enter_tlv (htag : tag < 9223372036854775808) (hlen : content.length < 9223372036854775808)
    (htok : tagOk t q (talOf cls c tag content) = true) (hnu : needsUnwrap t q = false) :
    enter t q (tlv cls c tag content) = .ok (tlv cls c tag content, q, talOf cls c tag content) := by
  rw [enter_of_parse (parse_tlv cls c tag content htag hlen) (talOf_end ..) htok, hnu]; rfl

end

/-- the parameters under which the inner element of an EXPLICIT tag is decoded -/
def untagged (p : Params) : Params := { p with tagNumber := none, explicit := false }

theorem enter_explicit (t : Ty) (q : Params) (n cls : Nat) (c : Bool) (tag : Nat) (content : Bytes)
    (hq : q.tagNumber = some n) (hx : needsUnwrap t q = true)
    (hn : n < 9223372036854775808) (htag : tag < 9223372036854775808)
    (hlen : (tlv cls c tag content).length < 9223372036854775808)
    (htok : tagOk t (untagged q) (talOf cls c tag content) = true) :
    enter t q (tlv 2 true n (tlv cls c tag content)) =
      .ok (tlv cls c tag content, untagged q, talOf cls c tag content) := by
  have hpar' := parse_tlv cls c tag content htag (by have := tlv_length cls c tag content; omega)
  rw [enter_of_parse (parse_tlv 2 true n _ hn hlen) (talOf_end ..) (tagOk_tagged hq ..), hx]
  unfold enterInner
  rw [sub_tlv]
  simp only [hpar', talOf_end, Nat.lt_irrefl, gt_iff_lt, if_false, List.take_length]
  rw [← untagged, htok]; rfl

theorem expectedTag_untagged (p : Params) (t : Ty) : expectedTag (untagged p) t = expectedTag p t := by
  cases t <;> rfl

/-- side conditions shared by the primitive round trips: the declared tag number and the content length fit
    the decoder's int64 arithmetic (44: room for two headers, `header_length_le`) -/
def fits (p : Params) (content : Bytes) : Prop :=
  (∀ n, p.tagNumber = some n → n < 9223372036854775808) ∧ content.length + 44 < 9223372036854775808

/-- the parameters `enter` hands on for a type that is not a CHOICE: EXPLICIT unwrapping drops the tag -/
def entered (p : Params) : Params := if p.tagNumber.isSome && p.explicit then untagged p else p

/-- `enter` on an element the encoder finished, for a type that is not a CHOICE and whose universal tag (if it has
    one) is `tag`: the element around the content, finished under the parameters handed on -/
theorem enter_finish (t : Ty) (p : Params) (c : Bool) (tag : Nat) (content : Bytes)
    (hexp : ∀ e, expectedTag p (stripPtr t) = some e → e = tag) (hnc : isChoiceTy t = false)
    (htag : tag < 9223372036854775808) (hfit : fits p content) :
    ∃ tal, enter t p (finish p c tag content) = .ok (finish (entered p) c tag content, entered p, tal) ∧
      from_ (finish (entered p) c tag content) tal.off = .ok content := by
  obtain ⟨hn, hlen⟩ := hfit
  -- the universal element passes the tag check of the untagged parameters
  have hu : ∀ q, q.tagNumber = none → expectedTag q (stripPtr t) = expectedTag p (stripPtr t) →
      tagOk t q (talOf 0 c tag content) = true := by
    intro q hq he
    unfold tagOk
    rw [hq, he]
    cases h : expectedTag p (stripPtr t) with
    | none => rfl
    | some e => simp [talOf, hexp e h]
  have hlen' : (tlv 0 c tag content).length < 9223372036854775808 := by
    rw [tlv_length]; have := header_length_le 0 c tag content.length; omega
  unfold entered
  rcases tagging_cases p c tag content with ⟨hp, hf, _⟩ | ⟨n, hp, hx, hf, _⟩ | ⟨n, hp, hx, hf, _⟩
  · simp only [hp, Option.isSome_none, Bool.false_and, Bool.false_eq_true, if_false, hf]
    exact ⟨_, enter_tlv t p 0 c tag content htag (by omega) (hu p hp rfl) (by simp [needsUnwrap, hp]),
      from_tlv ..⟩
  · simp only [hp, hx, Bool.and_false, Bool.false_eq_true, if_false, hf]
    exact ⟨_, enter_tlv t p 2 c n content (hn n hp) (by omega) (tagOk_tagged hp ..)
      (by simp [needsUnwrap, hx]), from_tlv ..⟩
  · simp only [hp, hx, Option.isSome_some, Bool.and_self, if_true, hf]
    rw [show finish (untagged p) c tag content = tlv 0 c tag content from rfl]
    exact ⟨_, enter_explicit t p n 0 c tag content hp (by simp [needsUnwrap, hp, hx, hnc]) (hn n hp) htag hlen'
      (hu _ rfl (expectedTag_untagged ..)), from_tlv ..⟩

theorem entered_cases (p : Params) : entered p = p ∨ entered p = untagged p := by
  unfold entered; split <;> simp

/-- `enter_finish` without naming the parameters handed on: they are the given ones or their untagged form -/
theorem enter_finish2 (t : Ty) (p : Params) (c : Bool) (tag : Nat) (content : Bytes)
    (hexp : expectedTag p (stripPtr t) = some tag ∨ expectedTag p (stripPtr t) = none)
    (hexp' : expectedTag (untagged p) (stripPtr t) = some tag ∨ expectedTag (untagged p) (stripPtr t) = none)
    (hnc : isChoiceTy t = false)
    (htag : tag < 9223372036854775808)
    (hn : ∀ n, p.tagNumber = some n → n < 9223372036854775808)
    (hlen : content.length + 44 < 9223372036854775808) :
    ∃ p' tal, enter t p (finish p c tag content) = .ok (finish p' c tag content, p', tal) ∧
      (p' = p ∨ p' = untagged p) ∧ from_ (finish p' c tag content) tal.off = .ok content := by
  obtain ⟨tal, he, hf⟩ := enter_finish t p c tag content
    (fun e h => by rcases hexp with h' | h' <;> rw [h'] at h <;> cases h; rfl) hnc htag ⟨hn, hlen⟩
  exact ⟨entered p, tal, he, entered_cases p, hf⟩

theorem fits_entered {p : Params} {content : Bytes} (h : fits p content) : fits (entered p) content := by
  rcases entered_cases p with e | e <;> rw [e]
  · exact h
  · exact ⟨fun n hn => (nomatch hn), h.2⟩

theorem expectedTag_entered (p : Params) (t : Ty) : expectedTag (entered p) t = expectedTag p t := by
  rcases entered_cases p with e | e <;> rw [e]
  exact expectedTag_untagged p t

theorem unmarshal_wrap_finish (t : Ty) (p : Params) (c : Bool) (tag : Nat) (content : Bytes)
    (htag : tag < 9223372036854775808) (hfit : fits p content) :
    unmarshal (.wrap t) p (finish p c tag content) = unmarshal t (entered p) (finish (entered p) c tag content) := by
  obtain ⟨tal, he, _⟩ := enter_finish (.wrap t) p c tag content (fun _ h => by cases h) rfl htag hfit
  rw [unmarshal_wrap, he]; rfl

theorem isPrim_under {t : Ty} (h : isPrim t = true) : underlying t = t ∧ stripPtr t = t ∧ isChoiceTy t = false := by
  cases t <;> first | exact ⟨rfl, rfl, rfl⟩ | cases h

theorem unmarshal_prim_finish (t : Ty) (p : Params) (tag : Nat) (content : Bytes) (ht : isPrim t = true)
    (hexp : ∀ e, expectedTag p t = some e → e = tag) (htag : tag < 9223372036854775808) (hfit : fits p content) :
    unmarshal t p (finish p false tag content) = primValue t content := by
  obtain ⟨_, hs, hnc⟩ := isPrim_under ht
  obtain ⟨tal, he, hf⟩ := enter_finish t p false tag content (by rwa [hs]) hnc htag hfit
  rw [unmarshal_prim t p _ ht, he]
  exact congrArg (primValue t) (drop_of_from hf)

theorem marshal_prim {t : Ty} {p : Params} {v : Val} {b : Bytes} (ht : isPrim t = true) (hm : marshal t p v = .ok b) :
    ∃ l, leaf t p v = some l ∧ expectedTag p t = some l.tag ∧ b = finish p false l.tag (l.contents intBytes) := by
  rw [marshal_flat (by cases t <;> first | rfl | cases ht)] at hm
  cases hl : leaf t p v with
  | none => rw [hl] at hm; cases hm
  | some l =>
    rw [hl] at hm; cases hm
    have hc : l.constructed = false := by
      unfold leaf at hl
      split at hl <;> cases hl <;> first | rfl | cases ht
    exact ⟨l, rfl, (isPrim_under ht).1 ▸ leaf_expectedTag hl, by rw [hc]⟩

theorem int_fits (p : Params) (i : Int) (hn : ∀ n, p.tagNumber = some n → n < 9223372036854775808) : fits p (intBytes i) :=
  ⟨hn, by have := intBytes_length_le i; omega⟩

theorem truncInt_of_ge {w : Nat} (h : w ≥ 64) (i : Int) : truncInt w i = i := by
  unfold truncInt; rw [if_pos h]

theorem truncInt_iff {w : Nat} (h1 : 1 ≤ w) (h64 : w < 64) (i : Int) :
    truncInt w i = i ↔ -(2 : Int) ^ (w - 1) ≤ i ∧ i < (2 : Int) ^ (w - 1) := by
  have hP : (0 : Int) < 2 ^ (w - 1) := Int.pow_pos (by decide)
  have h2 := two_pow_pred w h1
  unfold truncInt
  rw [if_neg (by omega), h2]
  generalize (2 : Int) ^ (w - 1) = P at hP
  have hm0 := Int.emod_nonneg i (show 2 * P ≠ 0 by omega)
  have hm1 := Int.emod_lt_of_pos i (show 0 < 2 * P by omega)
  constructor
  · intro h; simp only at h; split at h <;> omega
  · intro ⟨hl, hu⟩
    by_cases h0 : 0 ≤ i
    · rw [Int.emod_eq_of_lt h0 (by omega)]; simp only; rw [if_neg (by omega)]
    · -- a negative value is read off one modulus higher
      rw [← Int.add_mul_emod_self_left i (2 * P) 1, Int.emod_eq_of_lt (by omega) (by omega)]
      simp only; rw [if_pos (by omega)]; omega

/-- BIT STRING contents: the unused-bits octet followed by the octets decodes to the same bit length -/
theorem parseBitString_unused (bs : Bytes) (n : Nat) (hn : n ≤ 8 * bs.length) (hn' : 8 * bs.length < n + 8) :
    parseBitString (((8 - n % 8) % 8) :: bs) = .ok (.bits bs n) := by
  have h1 : ¬ ((8 - n % 8) % 8 > 7 ∨ (bs.length + 1 = 1 ∧ (8 - n % 8) % 8 ≠ 0)) := by omega
  have h2 : (bs.length + 1 - 1) * 8 - (8 - n % 8) % 8 = n := by omega
  simp only [parseBitString, List.length_cons, Nat.succ_ne_zero, if_false, idx,
    List.getElem?_cons_zero, from_, if_neg h1, show 1 ≤ bs.length + 1 by omega, if_true, List.drop_succ_cons,
    List.drop_zero, h2]

/-- the universal tag numbers fit the decoder's arithmetic; only that of a character string is not a constant -/
theorem expectedTag_lt {q : Params} {t : Ty} {tag : Nat} (hs : ∀ d, t = .str d → stringTagOf q d < 9223372036854775808)
    (h : expectedTag q t = some tag) : tag < 9223372036854775808 := by
  cases t <;> simp only [expectedTag, Option.some.injEq] at h <;> first | cases h | subst h
  all_goals first | decide | exact seqTag_lt63 q | exact hs _ rfl

/-- every primitive, plain or in a Value wrapper, under any tagging: the content codec decides -/
theorem prim_roundtrip {t : Ty} {p : Params} {v : Val} {b : Bytes} {l : Leaf} (hm : marshal t p v = .ok b)
    (ht : isPrim t = true) (hl : leaf t p v = some l)
    (hs : ∀ d, t = .str d → stringTagOf p d < 9223372036854775808) (hfit : fits p (l.contents intBytes))
    (hv : primValue t (l.contents intBytes) = .ok v) :
    unmarshal t p b = .ok v ∧ unmarshal (.wrap t) p b = .ok v := by
  obtain ⟨l', hl', he, rfl⟩ := marshal_prim ht hm
  cases hl.symm.trans hl'
  have htag := expectedTag_lt hs he
  have h : ∀ q, expectedTag q t = expectedTag p t → fits q (l.contents intBytes) →
      unmarshal t q (finish q false l.tag (l.contents intBytes)) = .ok v := fun q hq hf => by
    rw [unmarshal_prim_finish t q _ _ ht (fun e h => by rw [hq, he] at h; cases h; rfl) htag hf, hv]
  exact ⟨h p rfl hfit, by
    rw [unmarshal_wrap_finish t p false _ _ htag hfit]
    exact h _ (expectedTag_entered p t) (fits_entered hfit)⟩

end Chf.Ber
