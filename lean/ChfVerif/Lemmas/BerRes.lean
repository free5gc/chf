import ChfVerif.Model.Ber
/- the outcomes of encoder and decoder (`Res`: octets or a value, an error, a Go panic) and the three ways both hand them
   on: through a function, into a continuation, two in evaluation order -/
namespace Chf.Ber
open Chf

def Res.map {α β : Type} (f : α → β) : Res α → Res β
  | .ok a => .ok (f a)
  | .err => .err
  | .panic => .panic

def Res.bind {α β : Type} (r : Res α) (f : α → Res β) : Res β :=
  match r with
  | .ok a => f a
  | .err => .err
  | .panic => .panic

/-- two results one after the other, as the list walkers of encoder and decoder combine them: the failure met first in
    evaluation order decides -/
def Res.map₂ {α β γ : Type} (f : α → β → γ) : Res α → Res β → Res γ
  | .ok a, .ok b => .ok (f a b)
  | .panic, _ => .panic
  | .err, _ => .err
  | .ok _, .err => .err
  | .ok _, .panic => .panic

/-- one element followed by the rest of a run -/
abbrev Res.cat (a b : Res Bytes) : Res Bytes := Res.map₂ (· ++ ·) a b

section
variable {α β γ : Type} {f : α → β} {g : α → β → γ} {r : Res α} {a : Res α} {b : Res β}

theorem Res.eq_err_of_isErr (h : r.isErr = true) : r = .err := by
  cases r <;> simp_all [Res.isErr]

theorem Res.map_eq_ok {y : β} (h : r.map f = .ok y) : ∃ x, r = .ok x ∧ f x = y := by
  cases r <;> simp_all [Res.map]

theorem Res.map_eq_panic : r.map f = .panic ↔ r = .panic := by
  cases r <;> simp [Res.map]

theorem Res.map_ne_panic (h : r ≠ .panic) : r.map f ≠ .panic := mt Res.map_eq_panic.mp h

theorem Res.ite_ne_panic {c : Prop} [Decidable c] {x y : Res α} (hx : x ≠ .panic) (hy : y ≠ .panic) :
    (if c then x else y) ≠ .panic := by
  split <;> assumption

theorem Res.isOk_map (f : α → β) (r : Res α) : (r.map f).isOk = r.isOk := by
  cases r <;> rfl

theorem Res.bind_ne_panic {k : α → Res β} (hr : r ≠ .panic) (hk : ∀ x, r = .ok x → k x ≠ .panic) : r.bind k ≠ .panic := by
  cases r with
  | ok x => exact hk x rfl
  | err => intro h; cases h
  | panic => exact absurd rfl hr

theorem Res.map₂_eq_ok {c : γ} (h : Res.map₂ g a b = .ok c) : ∃ x y, a = .ok x ∧ b = .ok y ∧ g x y = c := by
  cases a <;> cases b <;> simp_all [Res.map₂]

theorem Res.isOk_map₂ : (Res.map₂ g a b).isOk = (a.isOk && b.isOk) := by
  cases a <;> cases b <;> rfl

theorem Res.map₂_ne_panic (ha : a ≠ .panic) (hb : b ≠ .panic) : Res.map₂ g a b ≠ .panic := by
  cases a <;> cases b <;> simp_all [Res.map₂]

theorem Res.map₂_isErr (ha : a ≠ .panic) (hb : b ≠ .panic) : (Res.map₂ g a b).isErr = (a.isErr || b.isErr) := by
  cases a <;> cases b <;> simp_all [Res.map₂, Res.isErr]

end

end Chf.Ber
