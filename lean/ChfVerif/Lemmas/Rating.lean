import ChfVerif.Model.Rating
/- the rating server one request at a time: `handleSUR` on a known and on an unknown tariff, `rate` by request sub-type
   (a debit whose exact price fits the Unsigned32 AVP; a reservation, with the price still modulo 2^32; anything else).
   C08 is stated on these, and the charging suite sends its requests through them. -/
namespace Chf.Rating

theorem handleSUR_known {st : List Tariff} {c : SUR} {s : Bytes} (hf : findCost st (subscriberId c) c.rg = some s) :
    handleSUR st c = .answer c.sess (buildTariff s).1 (buildTariff s).2
      (rate (serverUnitCost (buildTariff s)) c).1 (rate (serverUnitCost (buildTariff s)) c).2 := by
  unfold handleSUR; rw [hf]

theorem handleSUR_unknown {st : List Tariff} {c : SUR} (hf : findCost st (subscriberId c) c.rg = none) :
    handleSUR st c = .noAnswer := by
  unfold handleSUR; rw [hf]

theorem rate_debit (cost : Nat) {c : SUR} (hs : c.reqSub = 2) (hfit : c.consumed * cost < 4294967296) :
    rate cost c = (0, c.consumed * cost) := by
  unfold rate; rw [if_pos hs, Nat.mod_eq_of_lt hfit]

/-- a unit cost of 0 allows nothing: `quota / 0 = 0` -/
theorem rate_reserve (cost : Nat) {c : SUR} (hs : c.reqSub = 1) :
    rate cost c = (c.quota / cost, c.quota / cost * cost % 4294967296) := by
  unfold rate
  rw [if_neg (by omega), if_pos hs]
  split
  · subst cost; rw [Nat.div_zero]
  · rfl

theorem rate_other (cost : Nat) {c : SUR} (h1 : c.reqSub ≠ 1) (h2 : c.reqSub ≠ 2) : rate cost c = (0, 0) := by
  unfold rate; rw [if_neg h2, if_neg h1]

end Chf.Rating
