import ChfVerif.Lemmas.ChargingMaps
import ChfVerif.Lemmas.Abmf
import ChfVerif.Lemmas.Rating
/-
  Credit control from the inside out: one request to the rating server or to the account-balance server (tariff or
  account known, or not), then the two branches of one usage - where both servers know the subscriber as plain integer
  arithmetic (`reserveSpec`; `reserve_known`, `debit_ok`), and for any environment as what the branch made of the usage
  (`Outcome`: the money moved between account and reservation, `Moves`; what stays non-negative; which grant is backed).
  Nothing here knows of operations or histories.
-/
namespace Chf.Charging
open Chf
open Chf.Abmf (wrap64 toI64 toU64 InRange wrap64_id toI64_small toU64_cast find put find_put_same find_put_other)

def int32 (i : Int) : Prop := -2147483648 ≤ i ∧ i < 2147483648

/-- the range the specification's side conditions (`usageOKb`, `usageOKx`) give balances and reservations:
    2305843009213693952 = 2^61, so that their sums and differences with a few Unsigned32 products (4294967296 = 2^32) stay
    inside int64 and `wrap64` is the identity -/
def Within61 (i : Int) : Prop := -2305843009213693952 ≤ i ∧ i ≤ 2305843009213693952

theorem u32_inj {a b : Int} (ha : int32 a) (hb : int32 b) (h : u32 a = u32 b) : a = b := by
  unfold u32 at h; unfold int32 at ha hb
  have := congrArg (fun n : Nat => (n : Int)) h
  simp only [Int.toNat_of_nonneg (Int.emod_nonneg _ (by decide : (4294967296 : Int) ≠ 0))] at this
  omega

theorem u32_lt (i : Int) : u32 i < 4294967296 := by
  unfold u32
  have h := Int.emod_lt_of_pos i (show (0 : Int) < 4294967296 by decide)
  have h0 := Int.emod_nonneg i (show (4294967296 : Int) ≠ 0 by decide)
  omega

theorem totalUsed_lt (cs : List Container) : totalUsed cs < 4294967296 := by
  induction cs with
  | nil => simp [totalUsed]
  | cons c r ih =>
    unfold totalUsed
    split
    · exact Nat.mod_lt _ (by decide)
    · exact ih

theorem reqVolOf_lt (u : Usage) : reqVolOf u < 4294967296 := by
  unfold reqVolOf
  cases u.req with
  | none => decide
  | some r => exact u32_lt r

/-- what `subscriberId` of either server needs of a SUPI: "imsi-" followed by its subscription data comes out as the SUPI
    again (every SUPI the CHF accepts, `supiAccepted`, is one) -/
def GoodSupi (supi : Bytes) : Prop := imsiPrefix ++ subData supi = supi

section
variable {e : Env} {accts : Abmf.Store} {tariffs : List Rating.Tariff} {supi : Bytes} {st : RgState} {b : Int} {s : Bytes}

theorem rating_subscriberId (hs : GoodSupi supi) (rg : Int) (a b c : Nat) :
    Rating.subscriberId (mkSUR supi rg a b c) = supi := by
  unfold Rating.subscriberId mkSUR; simp only [if_true]; exact hs

theorem handleSUR_known {rg : Int} (hs : GoodSupi supi)
    (ht : Rating.findCost tariffs supi (u32 rg) = some s) (a b c : Nat) :
    Rating.handleSUR tariffs (mkSUR supi rg a b c) =
      .answer [] (Rating.buildTariff s).1 (Rating.buildTariff s).2
        (Rating.rate (costOf s) (mkSUR supi rg a b c)).1 (Rating.rate (costOf s) (mkSUR supi rg a b c)).2 :=
  -- `costOf s` is the server's `serverUnitCost (buildTariff s)` by `rfl`: the CHF decodes the tariff with the same formula (C08_agree)
  Rating.handleSUR_known (c := mkSUR supi rg a b c) (by rw [rating_subscriberId hs]; exact ht)

theorem handleSUR_unknown {rg : Int} (hs : GoodSupi supi)
    (ht : Rating.findCost tariffs supi (u32 rg) = none) (a b c : Nat) :
    Rating.handleSUR tariffs (mkSUR supi rg a b c) = .noAnswer :=
  Rating.handleSUR_unknown (c := mkSUR supi rg a b c) (by rw [rating_subscriberId hs]; exact ht)

theorem getUnitCost_known {rg : Int} (hs : GoodSupi supi)
    (ht : Rating.findCost e.tariffs supi (u32 rg) = some s) : getUnitCost e supi rg = costOf s := by
  unfold getUnitCost
  rw [handleSUR_known hs ht]
  rfl

/-- the unit cost the CHF works with: the tariff's, or 1 when the rating server stays silent -/
theorem getUnitCost_eq (hs : GoodSupi supi) (rg : Int) :
    getUnitCost e supi rg = match Rating.findCost e.tariffs supi (u32 rg) with | some s => costOf s | none => 1 := by
  cases ht : Rating.findCost e.tariffs supi (u32 rg) with
  | none => unfold getUnitCost; rw [handleSUR_unknown hs ht]
  | some s => exact getUnitCost_known hs ht

/-- a RESERVE request offering the money `q`: a rating server that knows no tariff stays silent, any other allows
    what `q` buys at the unit cost the CHF works with -/
theorem handleSUR_reserve (hs : GoodSupi supi) (rg : Int) (q : Nat) :
    Rating.handleSUR e.tariffs (mkSUR supi rg 1 0 q) =
      match Rating.findCost e.tariffs supi (u32 rg) with
      | none => .noAnswer
      | some s => .answer [] (Rating.buildTariff s).1 (Rating.buildTariff s).2 (q / getUnitCost e supi rg)
          (q / costOf s * costOf s % 4294967296) := by
  cases ht : Rating.findCost e.tariffs supi (u32 rg) with
  | none => exact handleSUR_unknown hs ht 1 0 q
  | some s =>
    rw [handleSUR_known hs ht, getUnitCost_known hs ht, Rating.rate_reserve (costOf s) rfl]
    rfl

theorem abmf_subscriberId (hs : GoodSupi supi) (rg : Int) (st : RgState) (a b c d : Nat) :
    Abmf.subscriberId (mkCCR supi rg st a b c d) = supi := by
  unfold Abmf.subscriberId mkCCR; simp only [if_true]; exact hs

/-- `a'` is the store `accts` with the balance of account (supi, rg) set to `b'` -/
structure SetBal (accts : Abmf.Store) (supi : Bytes) (rg : Nat) (b' : Int) (a' : Abmf.Store) : Prop where
  own : balOf a' supi rg = some b'
  frame : ∀ supi' rg', ¬ (supi' = supi ∧ rg' = rg) → balOf a' supi' rg' = balOf accts supi' rg'

theorem SetBal.put {rg : Nat} {q0 : Abmf.Quota} (h : find accts supi rg = some q0) (i : Int) :
    SetBal accts supi rg i (put accts supi rg (.num i)) :=
  ⟨by unfold balOf; rw [find_put_same _ h]; rfl, fun _ _ hne => by unfold balOf; rw [find_put_other _ hne]⟩

theorem sendCCR_known {rg : Int} (hs : GoodSupi supi) (hb : balOf accts supi (u32 rg) = some b) (reqType action rsu usu : Nat) :
    ∃ a', sendCCR accts supi rg st reqType action rsu usu =
        (a', .answer [] reqType (st.reqNum % 4294967296)
          (Abmf.effect b (mkCCR supi rg st reqType action rsu usu)).2.1
          (Abmf.effect b (mkCCR supi rg st reqType action rsu usu)).2.2) ∧
      SetBal accts supi (u32 rg) (Abmf.effect b (mkCCR supi rg st reqType action rsu usu)).1 a' := by
  unfold balOf at hb
  cases hf : find accts supi (u32 rg) with
  | none => simp [hf] at hb
  | some q0 =>
    simp only [hf] at hb
    have hsub := abmf_subscriberId hs rg st reqType action rsu usu
    have hf' : find accts (Abmf.subscriberId (mkCCR supi rg st reqType action rsu usu))
        (mkCCR supi rg st reqType action rsu usu).rg = some q0 := by rw [hsub]; exact hf
    refine ⟨_, ?_, .put hf _⟩
    unfold sendCCR
    rw [Abmf.handleCCR_known hf' hb, hsub]
    rfl

theorem sendCCR_unknown {rg : Int} (hs : GoodSupi supi)
    (hb : balOf accts supi (u32 rg) = none) (reqType action rsu usu : Nat) :
    sendCCR accts supi rg st reqType action rsu usu = (accts, .noAnswer) :=
  Abmf.handleCCR_silent fun q hq => by
    rw [abmf_subscriberId hs] at hq
    unfold balOf at hb
    rw [show find accts supi (u32 rg) = some q from hq] at hb
    exact hb

/-- The reservation top-up on a known account (`r1` the reservation after the reported usage was taken off, `reqQ` the
    money the request needs): the server grants `g` = what is missing, at most what the account holds, and takes it
    off the balance. -/
theorem topUp_known {rg : Int} {st1 : RgState} {r1 : Int} {reqQ : Nat}
    (hs : GoodSupi supi) (hb : balOf accts supi (u32 rg) = some b)
    (hbr : Within61 b)
    (hr : -2305843009213693952 - 4294967296 ≤ r1 ∧ r1 ≤ 2305843009213693952) (hq : reqQ < 4294967296)
    (hneed : r1 < (reqQ : Int)) :
    ∃ (a' : Abmf.Store) (g : Int), g = min ((reqQ : Int) - r1) (max b 0) ∧
      sendCCR accts supi rg st1 2 0 (toU64 ((reqQ : Int) - r1)) 0 =
        (a', .answer [] 2 (st1.reqNum % 4294967296) (some g.toNat) (decide ((reqQ : Int) - r1 > b))) ∧
      wrap64 (r1 + toI64 g.toNat) = r1 + g ∧ SetBal accts supi (u32 rg) (b - g) a' := by
  obtain ⟨b0, b1⟩ := hbr
  obtain ⟨r0, r1'⟩ := hr
  have hask := toU64_cast (i := (reqQ : Int) - r1) (by omega) (by omega)
  obtain ⟨a', hsend, hset⟩ := sendCCR_known (st := st1) hs hb 2 0 (toU64 ((reqQ : Int) - r1)) 0
  rw [Abmf.effect_reserve (c := mkCCR supi rg st1 2 0 (toU64 ((reqQ : Int) - r1)) 0) rfl (.inr rfl)
    (show toU64 ((reqQ : Int) - r1) < _ by omega) ⟨by omega, by omega⟩] at hsend hset
  simp only [mkCCR, hask] at hsend hset
  refine ⟨a', _, rfl, hsend, ?_, hset⟩
  rw [toI64_small (by omega), Int.toNat_of_nonneg (by omega)]; exact wrap64_id ⟨by omega, by omega⟩

/-- settling `d ≥ 0` on a known account at the end of a rating group's life: a refund (REFUND_ACCOUNT, `d` as
    requested units) puts it back, a final debit (TERMINATION, `d` as used units) takes it off -/
theorem settle_known {rg : Int} {d : Int}
    (hs : GoodSupi supi) (hb : balOf accts supi (u32 rg) = some b)
    (hbr : Within61 b) (hd : 0 ≤ d ∧ d ≤ 4611686018427387904)
    (st : RgState) (refund : Bool) :
    ∃ a' g f, (if refund then sendCCR accts supi rg st 0 1 (toU64 d) 0 else sendCCR accts supi rg st 3 0 0 (toU64 d)) =
        (a', .answer [] (if refund then 0 else 3) (st.reqNum % 4294967296) g f) ∧
      SetBal accts supi (u32 rg) (if refund then b + d else b - d) a' := by
  obtain ⟨b0, b1⟩ := hbr
  have hn := toU64_cast (i := d) hd.1 (by omega)
  cases refund with
  | true =>
    obtain ⟨a', hsend, hset⟩ := sendCCR_known (st := st) hs hb 0 1 (toU64 d) 0
    rw [Abmf.effect_refund (c := mkCCR supi rg st 0 1 (toU64 d) 0) rfl (show toU64 d < _ by omega)
      (show InRange (b + (toU64 d : Nat)) from ⟨by omega, by omega⟩)] at hset
    simp only [mkCCR, hn] at hset
    exact ⟨a', _, _, hsend, hset⟩
  | false =>
    obtain ⟨a', hsend, hset⟩ := sendCCR_known (st := st) hs hb 3 0 0 (toU64 d)
    rw [Abmf.effect_termination (c := mkCCR supi rg st 3 0 0 (toU64 d)) rfl rfl (show toU64 d < _ by omega)
      (show InRange (b - (toU64 d : Nat)) from ⟨by omega, by omega⟩)] at hset
    simp only [mkCCR, hn] at hset
    exact ⟨a', _, _, hsend, hset⟩

end

/-- the side conditions under which one usage is processed without wrap-around and with answering peers: those of the
    specification's `usageOKb` (balance and reservation `Within61`, written out) -/
structure UsageOK (e : Env) (supi : Bytes) (u : Usage) (st : RgState) (b : Int) (s : Bytes) : Prop where
  good : GoodSupi supi
  acct : balOf e.accts supi (u32 u.rg) = some b
  tariff : Rating.findCost e.tariffs supi (u32 u.rg) = some s
  usedFit : totalUsed u.cs * costOf s < 4294967296
  reqFit : reqVolOf u * costOf s < 4294967296
  balRange : -2305843009213693952 ≤ b ∧ b ≤ 2305843009213693952
  resRange : -2305843009213693952 ≤ st.reserved ∧ st.reserved ≤ 2305843009213693952

/-- no account is overdrawn -/
def NonNeg (accts : Abmf.Store) : Prop := ∀ supi rg b, balOf accts supi rg = some b → 0 ≤ b

theorem SetBal.nonneg {accts a' : Abmf.Store} {supi : Bytes} {rg : Nat} {b' : Int} (h : SetBal accts supi rg b' a')
    (hN : NonNeg accts) (h0 : 0 ≤ b') : NonNeg a' := by
  intro supi' rg' v hv
  by_cases hk : supi' = supi ∧ rg' = rg
  · rw [hk.1, hk.2, h.own] at hv; cases hv; exact h0
  · rw [h.frame _ _ hk] at hv; exact hN _ _ _ hv

/-- what the reserve branch does, as plain integer arithmetic:
    (new balance, new reservation, final-unit indication, granted units) -/
def reserveSpec (b r : Int) (used reqVol c : Nat) : Int × Int × Bool × Nat :=
  let r1 := r - (used * c : Nat)
  let reqQ : Int := (reqVol * c : Nat)
  let g : Int := min (max (reqQ - r1) 0) (max b 0)
  let r2 := r1 + g
  (b - g, r2, decide (r1 < reqQ ∧ reqQ - r1 > b), min ((min (max r2 0) reqQ).toNat / c) reqVol)

section
variable {e : Env} {supi : Bytes} {u : Usage} {st : RgState} {b : Int} {s : Bytes} {used : Nat}

theorem avail_eq (r2 : Int) (q : Nat) (hq : q < 4294967296) :
    ((if r2 < (q : Int) then if r2 > 0 then r2.toNat else 0 else q) % 4294967296) = (min (max r2 0) (q : Int)).toNat := by
  by_cases h1 : r2 < (q : Int)
  · by_cases h2 : r2 > 0
    · rw [if_pos h1, if_pos h2, Int.min_eq_left (by omega), Int.max_eq_left (by omega)]; exact Nat.mod_eq_of_lt (by omega)
    · rw [if_pos h1, if_neg h2, Int.min_eq_left (by omega), Int.max_eq_right (by omega)]; rfl
  · rw [if_neg h1, Int.min_eq_right (by omega), Int.toNat_natCast]; exact Nat.mod_eq_of_lt hq

/-- The reserve branch on a known account, whatever the rating server knows: the account and the reservation are
    `reserveSpec`'s at the unit cost obtained; units are granted exactly when the rating server answers, which it does
    when it knows the tariff. -/
theorem reserve_known (hs : GoodSupi supi) (hb : balOf e.accts supi (u32 u.rg) = some b)
    (hused : used * getUnitCost e supi u.rg < 4294967296) (hreq : reqVolOf u * getUnitCost e supi u.rg < 4294967296)
    (hbalr : Within61 b)
    (hres : Within61 st.reserved) :
    SetBal e.accts supi (u32 u.rg) (reserveSpec b st.reserved used (reqVolOf u) (getUnitCost e supi u.rg)).1
      (reserveBranch e supi u st used).accts ∧
    (reserveBranch e supi u st used).st.reserved =
      (reserveSpec b st.reserved used (reqVolOf u) (getUnitCost e supi u.rg)).2.1 ∧
    (reserveBranch e supi u st used).mui = (Rating.findCost e.tariffs supi (u32 u.rg)).map fun _ =>
      { rg := u.rg, granted := (reserveSpec b st.reserved used (reqVolOf u) (getUnitCost e supi u.rg)).2.2.2,
        fui := (reserveSpec b st.reserved used (reqVolOf u) (getUnitCost e supi u.rg)).2.2.1 } := by
  obtain ⟨b0, b1⟩ := hbalr
  obtain ⟨r0, r1⟩ := hres
  have hsur := handleSUR_reserve (e := e) hs u.rg
  unfold reserveBranch reserveSpec
  simp only [Nat.mod_eq_of_lt hused, Nat.mod_eq_of_lt hreq]
  generalize getUnitCost e supi u.rg = c at hused hreq hsur ⊢
  rw [wrap64_id (i := st.reserved - ((used * c : Nat) : Int)) ⟨by omega, by omega⟩]
  generalize hr1 : st.reserved - ((used * c : Nat) : Int) = r1
  by_cases hneed : r1 < ((reqVolOf u * c : Nat) : Int)
  · obtain ⟨a', g, hg, hsend, hw, hset⟩ := topUp_known
      (st1 := { reserved := r1, mode := st.mode, cost := c, reqNum := st.reqNum }) hs hb ⟨b0, b1⟩
      ⟨by omega, by omega⟩ hreq hneed
    rw [show max (((reqVolOf u * c : Nat) : Int) - r1) 0 = ((reqVolOf u * c : Nat) : Int) - r1 by omega, ← hg]
    simp only [hneed, if_true, true_and, hsend, Option.getD_some, hw, avail_eq _ _ hreq]
    rw [hsur]
    cases Rating.findCost e.tariffs supi (u32 u.rg) <;> exact ⟨hset, rfl, rfl⟩
  · -- the reservation covers the request: no account request
    rw [show min (max (((reqVolOf u * c : Nat) : Int) - r1) 0) (max b 0) = 0 by omega, Int.add_zero,
      show min (max r1 0) ((reqVolOf u * c : Nat) : Int) = (reqVolOf u * c : Nat) by omega]
    simp only [hneed, if_false, false_and, decide_false, Int.sub_zero, Nat.mod_eq_of_lt hreq,
      Int.toNat_natCast]
    rw [hsur]
    cases Rating.findCost e.tariffs supi (u32 u.rg) <;> exact ⟨⟨hb, fun _ _ _ => rfl⟩, rfl, rfl⟩

theorem reserve_ok (ok : UsageOK e supi u st b s) :
    balOf (reserveBranch e supi u st (totalUsed u.cs)).accts supi (u32 u.rg) =
      some (reserveSpec b st.reserved (totalUsed u.cs) (reqVolOf u) (costOf s)).1 ∧
    (reserveBranch e supi u st (totalUsed u.cs)).st.reserved =
      (reserveSpec b st.reserved (totalUsed u.cs) (reqVolOf u) (costOf s)).2.1 ∧
    (reserveBranch e supi u st (totalUsed u.cs)).mui =
      some { rg := u.rg, granted := (reserveSpec b st.reserved (totalUsed u.cs) (reqVolOf u) (costOf s)).2.2.2,
             fui := (reserveSpec b st.reserved (totalUsed u.cs) (reqVolOf u) (costOf s)).2.2.1 } := by
  have hc := getUnitCost_known ok.good ok.tariff
  obtain ⟨hset, hr, hm⟩ := reserve_known (used := totalUsed u.cs) ok.good ok.acct
    (by rw [hc]; exact ok.usedFit) (by rw [hc]; exact ok.reqFit) ok.balRange ok.resRange
  rw [ok.tariff, hc] at hm
  rw [hc] at hset hr
  exact ⟨hset.own, hr, hm⟩

/-- Reserve mode when a top-up gets no answer (`hno`): the reported usage is taken off the reservation at the unit cost
    obtained and no account is touched, whether or not a top-up is needed and whatever the rating server then says. -/
theorem reserve_unanswered (hused : used * getUnitCost e supi u.rg < 4294967296) (hres : Within61 st.reserved)
    (hno : ∀ st' ask, sendCCR e.accts supi u.rg st' 2 0 ask 0 = (e.accts, .noAnswer)) :
    (reserveBranch e supi u st used).accts = e.accts ∧
    (reserveBranch e supi u st used).st.reserved = st.reserved - ((used * getUnitCost e supi u.rg : Nat) : Int) := by
  obtain ⟨r0, r1⟩ := hres
  unfold reserveBranch
  simp only [Nat.mod_eq_of_lt hused]
  generalize getUnitCost e supi u.rg = c at hused ⊢
  rw [wrap64_id (i := st.reserved - ((used * c : Nat) : Int)) ⟨by omega, by omega⟩]
  by_cases hneed : st.reserved - ((used * c : Nat) : Int) < ((reqVolOf u * c % 4294967296 : Nat) : Int)
  · simp only [hneed, if_true, hno, and_self]
  · simp only [hneed, if_false]; split <;> exact ⟨rfl, rfl⟩

theorem reserveSpec_safe (b r : Int) (used reqVol c : Nat) :
    (reserveSpec b r used reqVol c).1 + (reserveSpec b r used reqVol c).2.1 = b + r - ((used * c : Nat) : Int) ∧
    (0 ≤ b → 0 ≤ (reserveSpec b r used reqVol c).1) ∧
    (((used * c : Nat) : Int) ≤ r →
      (((reserveSpec b r used reqVol c).2.2.2 * c : Nat) : Int) ≤ (reserveSpec b r used reqVol c).2.1) ∧
    (reserveSpec b r used reqVol c).2.2.2 ≤ reqVol := by
  simp only [reserveSpec]
  generalize hr1 : r - ((used * c : Nat) : Int) = r1
  refine ⟨by omega, by omega, fun hu => ?_, Nat.min_le_right _ _⟩
  -- granted·c ≤ what is available ≤ the reservation
  generalize hav : min (max (r1 + min (max (((reqVol * c : Nat) : Int) - r1) 0) (max b 0)) 0) ((reqVol * c : Nat) : Int) = avail
  have h1 : min (avail.toNat / c) reqVol * c ≤ avail.toNat / c * c := Nat.mul_le_mul_right c (Nat.min_le_left _ _)
  have h2 : avail.toNat / c * c ≤ avail.toNat := Nat.div_mul_le_self _ _
  omega

theorem reserveSpec_grant (b r : Int) (used reqVol c : Nat) :
    (0 ≤ b → ((reserveSpec b r used reqVol c).2.2.1 = true ↔
      b + (r - ((used * c : Nat) : Int)) < ((reqVol * c : Nat) : Int))) ∧
    (0 ≤ b → ((used * c : Nat) : Int) ≤ r → (reserveSpec b r used reqVol c).2.2.1 = true →
      (reserveSpec b r used reqVol c).2.2.2 = (b + (r - ((used * c : Nat) : Int))).toNat / c) ∧
    (0 < c → (reserveSpec b r used reqVol c).2.2.1 = false → (reserveSpec b r used reqVol c).2.2.2 = reqVol) := by
  simp only [reserveSpec, decide_eq_true_eq, decide_eq_false_iff_not]
  generalize hr1 : r - ((used * c : Nat) : Int) = r1
  refine ⟨by omega, fun hb hu hf => ?_, fun hc hf => ?_⟩
  · rw [show min (max (r1 + min (max (((reqVol * c : Nat) : Int) - r1) 0) (max b 0)) 0) ((reqVol * c : Nat) : Int) = b + r1 by omega]
    -- (b + r1)/c ≤ reqVol because b + r1 < reqVol·c
    have : (b + r1).toNat < c * reqVol := by rw [Nat.mul_comm]; omega
    exact Nat.min_eq_left (Nat.le_of_lt (Nat.div_lt_of_lt_mul this))
  · rw [show min (max (r1 + min (max (((reqVol * c : Nat) : Int) - r1) 0) (max b 0)) 0) ((reqVol * c : Nat) : Int) =
      (reqVol * c : Nat) by omega, Int.toNat_natCast, Nat.mul_div_cancel _ hc, Nat.min_self]

/-- the debit branch when rating and account server both answer: a refund of what the price leaves of the reservation, or
    a final debit of what the reservation does not cover -/
theorem debit_ok (ok : UsageOK e supi u st b s) :
    SetBal e.accts supi (u32 u.rg) (b + st.reserved - ((totalUsed u.cs * costOf s : Nat) : Int))
      (debitBranch e supi u st (totalUsed u.cs)).accts ∧
    (debitBranch e supi u st (totalUsed u.cs)).st.reserved = 0 ∧
    (debitBranch e supi u st (totalUsed u.cs)).mui = some { rg := u.rg, granted := 0, fui := false } := by
  obtain ⟨hs, hb, ht, hu, hr, hbr, ⟨r0, r1⟩⟩ := ok
  unfold debitBranch
  rw [handleSUR_known hs ht]
  have hprice : Rating.rate (costOf s) (mkSUR supi u.rg 2 (totalUsed u.cs) 0) = (0, totalUsed u.cs * costOf s) :=
    Rating.rate_debit _ rfl hu
  simp only [hprice]
  by_cases hlt : ((totalUsed u.cs * costOf s : Nat) : Int) < st.reserved
  · obtain ⟨a', g, f, hsend, hset⟩ := settle_known (d := st.reserved - ((totalUsed u.cs * costOf s : Nat) : Int))
      hs hb hbr ⟨by omega, by omega⟩ { st with mode := 1 } true
    simp only [if_true, ← Int.add_sub_assoc] at hsend hset
    simp only [hlt, if_true, hsend]
    exact ⟨hset, trivial, trivial⟩
  · obtain ⟨a', g, f, hsend, hset⟩ := settle_known (d := ((totalUsed u.cs * costOf s : Nat) : Int) - st.reserved)
      hs hb hbr ⟨by omega, by omega⟩ st false
    simp only [Bool.false_eq_true, if_false] at hsend hset
    simp only [hlt, if_false, hsend]
    rw [show b - (((totalUsed u.cs * costOf s : Nat) : Int) - st.reserved) =
      b + st.reserved - ((totalUsed u.cs * costOf s : Nat) : Int) by omega] at hset
    exact ⟨hset, trivial, trivial⟩

/-- What a branch of the credit control did to the money of (supi, rg), `r` the reservation before: account (if the
    server knows one) and reservation together moved by `-d`, no other account was touched. -/
structure Moves (accts : Abmf.Store) (supi : Bytes) (rg : Int) (r : Int) (out : RgOut) (d : Int) : Prop where
  known : ∀ b, balOf accts supi (u32 rg) = some b →
    ∃ b', balOf out.accts supi (u32 rg) = some b' ∧ b' + out.st.reserved = b + r - d
  unknown : balOf accts supi (u32 rg) = none → out.accts = accts ∧ out.st.reserved = r - d
  frame : ∀ supi' rg', ¬ (supi' = supi ∧ rg' = u32 rg) → balOf out.accts supi' rg' = balOf accts supi' rg'

theorem Moves.idle {accts : Abmf.Store} {rg : Int} {r : Int} {out : RgOut} {d : Int}
    (h : out.accts = accts ∧ out.st.reserved = r - d) : Moves accts supi rg r out d :=
  ⟨fun b hb => ⟨b, by rw [h.1]; exact hb, by rw [h.2]; omega⟩, fun _ => h, fun _ _ _ => by rw [h.1]⟩

theorem Moves.of_known {accts : Abmf.Store} {rg : Int} {r : Int} {out : RgOut} {d b' : Int}
    (hb : balOf accts supi (u32 rg) = some b) (hset : SetBal accts supi (u32 rg) b' out.accts)
    (hsum : b' + out.st.reserved = b + r - d) : Moves accts supi rg r out d :=
  ⟨fun b2 hb2 => ⟨b', hset.own, by rw [hb] at hb2; cases hb2; exact hsum⟩, fun h => (by rw [hb] at h; cases h), hset.frame⟩

/-- once the branch's state is stored under the usage's rating group, `moneyOf` of every rating group of the
    subscriber has moved accordingly (`u32` is injective on the rating groups the side conditions admit) -/
theorem Moves.moneyOf {accts : Abmf.Store} {groups : List (Int × RgState)} {out : RgOut} {d : Int}
    (m : Moves accts supi u.rg (resv groups u.rg) out d) {rg : Int} (hrg : int32 rg) (hrg32 : int32 u.rg) :
    Charging.moneyOf out.accts (setRg groups u.rg out.st) supi rg =
      (Charging.moneyOf accts groups supi rg).map (fun v => v - (if rg = u.rg then d else 0)) := by
  unfold Charging.moneyOf
  rw [resv_setRg]
  by_cases heq : rg = u.rg
  · rw [heq]
    simp only [if_true]
    cases hb : balOf accts supi (u32 u.rg) with
    | none => rw [← (m.unknown hb).1] at hb; rw [hb]; rfl
    | some b =>
      obtain ⟨b', h1, h2⟩ := m.known b hb
      rw [h1]
      simp only [Option.map_some, Option.some.injEq]
      omega
  · have hne : ¬ (supi = supi ∧ u32 rg = u32 u.rg) := fun h => heq (u32_inj hrg hrg32 h.2)
    rw [m.frame _ _ hne]
    simp only [heq, if_false, Int.sub_zero]
    cases balOf accts supi (u32 rg) <;> rfl

/-- What a branch of the credit control made of one usage, `r` the reservation before and `d` the money booked: how the
    money moved; no account becomes overdrawn, unless both servers answer and `r` does not cover `d` (only a final debit
    can take more than the account holds: a reservation is limited to the balance by the server); and where both servers
    know the subscriber, units are granted and - `r` covering `d` - backed by the new reservation. -/
structure Outcome (e : Env) (supi : Bytes) (u : Usage) (r : Int) (out : RgOut) (d : Int) : Prop where
  moves : Moves e.accts supi u.rg r out d
  nonneg : (¬ (∃ b s, balOf e.accts supi (u32 u.rg) = some b ∧ Rating.findCost e.tariffs supi (u32 u.rg) = some s) ∨ d ≤ r) →
    NonNeg e.accts → NonNeg out.accts
  granted : ∀ b s, balOf e.accts supi (u32 u.rg) = some b → Rating.findCost e.tariffs supi (u32 u.rg) = some s →
    ∃ x, out.mui = some x ∧ (d ≤ r → ((x.granted * costOf s : Nat) : Int) ≤ out.st.reserved)

/-- a server does not know the subscriber, and no account request was answered -/
theorem Outcome.idle {r d : Int} {out : RgOut} (h : out.accts = e.accts ∧ out.st.reserved = r - d)
    (hn : balOf e.accts supi (u32 u.rg) = none ∨ Rating.findCost e.tariffs supi (u32 u.rg) = none) :
    Outcome e supi u r out d :=
  ⟨.idle h, fun _ hN => by rw [h.1]; exact hN, fun b s hb hs => by rcases hn with hn | hn <;> simp [hb, hs] at hn⟩

/-- the side conditions of one online usage, in terms of what the CHF reaches (`UsageOK` where account and tariff are
    known, `UsageFit.ok`) -/
structure UsageFit (e : Env) (supi : Bytes) (st : RgState) (u : Usage) : Prop where
  good : GoodSupi supi
  mode : st.mode = 1 ∨ st.mode = 2
  resRange : Within61 st.reserved
  balRange : ∀ b, balOf e.accts supi (u32 u.rg) = some b → Within61 b
  usedFit : totalUsed u.cs * getUnitCost e supi u.rg < 4294967296
  reqFit : reqVolOf u * getUnitCost e supi u.rg < 4294967296

theorem UsageFit.ok (fit : UsageFit e supi st u)
    (hb : balOf e.accts supi (u32 u.rg) = some b) (ht : Rating.findCost e.tariffs supi (u32 u.rg) = some s) :
    UsageOK e supi u st b s :=
  have hc := getUnitCost_known fit.good ht
  ⟨fit.good, hb, ht, hc ▸ fit.usedFit, hc ▸ fit.reqFit, fit.balRange b hb, fit.resRange⟩

/-- The reserve branch for any environment: the reported usage is taken off the money whether or not the top-up is
    answered. -/
theorem reserve_outcome (fit : UsageFit e supi st u) :
    Outcome e supi u st.reserved (reserveBranch e supi u st (totalUsed u.cs))
      ((totalUsed u.cs * getUnitCost e supi u.rg : Nat) : Int) := by
  obtain ⟨hs, _, hres, hbalr, hused, hreq⟩ := fit
  cases hbal : balOf e.accts supi (u32 u.rg) with
  | none =>
    -- the request about an unknown account gets no answer
    exact .idle (reserve_unanswered hused hres fun _ _ => sendCCR_unknown hs hbal ..) (.inl hbal)
  | some b =>
    -- the server grants `g`, at most what the account holds; what the rating server then says moves no money
    obtain ⟨hset, hr, hm⟩ := reserve_known hs hbal hused hreq (hbalr b hbal) hres
    obtain ⟨hsum, hnn, hback, _⟩ :=
      reserveSpec_safe b st.reserved (totalUsed u.cs) (reqVolOf u) (getUnitCost e supi u.rg)
    refine ⟨.of_known hbal hset (hr ▸ hsum), fun _ hN => hset.nonneg hN (hnn (hN _ _ _ hbal)), fun _ s _ ht => ?_⟩
    rw [hm, ht, hr, ← getUnitCost_known hs ht]; exact ⟨_, rfl, hback⟩

/-- the price the debit branch settles: that of the reported usage when rating and account server both answer, nothing
    otherwise -/
def settledIn (e : Env) (supi : Bytes) (u : Usage) : Int :=
  match Rating.findCost e.tariffs supi (u32 u.rg) with
  | some s =>
    (match balOf e.accts supi (u32 u.rg) with
     | some _ => ((totalUsed u.cs * costOf s : Nat) : Int)
     | none => 0)
  | none => 0

theorem debit_outcome (fit : UsageFit e supi st u) :
    Outcome e supi u st.reserved (debitBranch e supi u st (totalUsed u.cs)) (settledIn e supi u) := by
  have hs := fit.good
  unfold settledIn
  cases ht : Rating.findCost e.tariffs supi (u32 u.rg) with
  | none =>
    unfold debitBranch; rw [handleSUR_unknown hs ht]
    exact .idle ⟨rfl, (Int.sub_zero _).symm⟩ (.inr ht)
  | some s =>
    cases hbal : balOf e.accts supi (u32 u.rg) with
    | none =>
      unfold debitBranch; rw [handleSUR_known hs ht]
      simp only [sendCCR_unknown hs hbal]
      split <;> exact .idle ⟨rfl, (Int.sub_zero _).symm⟩ (.inl hbal)
    | some b =>
      obtain ⟨c1, c2, c3⟩ := debit_ok (fit.ok hbal ht)
      refine ⟨.of_known hbal c1 (by rw [c2]; simp only; omega), fun h hN => c1.nonneg hN ?_, fun _ s' _ hs' => ?_⟩
      · have hcov := h.resolve_left fun hn => hn ⟨b, s, hbal, ht⟩
        have := hN _ _ _ hbal
        simp only at hcov; omega
      · exact ⟨_, c3, fun _ => by rw [c2]; simp⟩

end

end Chf.Charging
