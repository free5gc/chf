import ChfVerif.Lemmas.Digits
import ChfVerif.Spec.X690
/- the digit loops of the codec and of its reference are `digits` / `ofDigits`: tag numbers (base 128) and lengths (base 256)
   on the model's side (`tagDigits`, `lenDigits`) and on the reference side (`base128`, `base256`), and the value the
   decoder loops compute (`beValue`, `readBase256`; for the two tag-number loops see `readBase128_digits` in
   Lemmas/X690Header.lean and `highTagLoop_digits` in Lemmas/BerParseHeader.lean) -/
namespace Chf.Ber
open Chf Chf.X690

theorem tagDigits_eq_digits (f : Nat) : ∀ t, tagDigits t f = digits 128 t f := by
  induction f with
  | zero => intro t; rfl
  | succ f ih => intro t; rw [tagDigits, digits, ih]; split <;> split <;> first | rfl | omega

theorem lenDigits_eq_digits (f : Nat) : ∀ l, lenDigits l f = digits 256 l f := by
  induction f with
  | zero => intro l; rfl
  | succ f ih => intro l; rw [lenDigits, digits, ih]; split <;> split <;> first | rfl | omega

theorem base128_eq_digits (f : Nat) : ∀ t, t < 128 ^ (f + 1) → base128 t (f + 1) = digits 128 t f := by
  induction f with
  | zero => intro t h; have h : t < 128 := h; simp [base128, digits, h, Nat.mod_eq_of_lt h]
  | succ f ih =>
    intro t h
    rw [base128, digits]
    split
    · simp [Nat.mod_eq_of_lt ‹t < 128›]
    · rw [ih _ (div_lt_pow h)]

theorem base256_eq_digits (f : Nat) : ∀ l, l < 256 ^ (f + 1) → base256 l (f + 1) = digits 256 l f := by
  induction f with
  | zero => intro l h; have h : l < 256 := h; simp [base256, digits, h, Nat.mod_eq_of_lt h]
  | succ f ih =>
    intro l h
    rw [base256, digits]
    split
    · simp [Nat.mod_eq_of_lt ‹l < 256›]
    · rw [ih _ (div_lt_pow h)]

theorem beValue_eq_ofDigits (ds : Bytes) : ∀ acc, beValue ds acc = ofDigits 256 ds acc := by
  induction ds with
  | nil => intro acc; rfl
  | cons x r ih => intro acc; exact ih _

theorem readBase256_eq_ofDigits (ds : Bytes) : ∀ acc, readBase256 ds acc = ofDigits 256 ds acc := by
  induction ds with
  | nil => intro acc; rfl
  | cons x r ih => intro acc; exact ih _

end Chf.Ber
