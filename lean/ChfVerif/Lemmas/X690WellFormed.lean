import ChfVerif.Lemmas.X690Header
import ChfVerif.Lemmas.BerEncode
/- every output of the reference X.690 encoder is accepted by the independent well-formedness walker (C04) -/
namespace Chf.X690
open Chf Chf.Ber

/-- one element: the reader finds its header whatever follows, the header describes its size, and the walker
    accepts it with any fuel from its length on -/
def IsElem (e : Bytes) : Prop :=
  ∃ h : Hdr, (∀ tail, readHeader (e ++ tail) = some h) ∧ e.length = h.size + h.len ∧ 2 ≤ h.size ∧
    ∀ fuel, e.length ≤ fuel → wellFormedFuel fuel e = true

inductive Elems : Bytes → Prop
  | nil : Elems []
  | cons {e rest : Bytes} : IsElem e → Elems rest → Elems (e ++ rest)

theorem seq_ok {c : Bytes} (h : Elems c) : ∀ fuel, c.length + 1 ≤ fuel → wellFormedSeq fuel c = true := by
  induction h with
  | nil => intro fuel _; cases fuel <;> rfl
  | @cons e rest he _ ih =>
    intro fuel hf
    obtain ⟨h, hread, hlen, hsz, hwf⟩ := he
    rw [List.length_append] at hf
    obtain ⟨f, rfl⟩ : ∃ f, fuel = f + 1 := ⟨fuel - 1, by omega⟩
    -- the reader finds the first element's header, and `take` / `drop` at its end give `e` and `rest`
    rw [wellFormedSeq, if_neg (by rw [List.length_append]; omega), hread rest]
    simp only [← hlen, List.take_left', List.drop_left', hwf f (by omega), ih f (by omega), List.length_append,
      Nat.le_add_right, decide_true, Bool.and_self]

theorem element_length_ge (cls : Nat) (c : Bool) (tag : Nat) (contents : Bytes) :
    contents.length ≤ (element cls c tag contents).length := by
  unfold element; simp only [List.length_append]; omega

/-- the contents of a constructed element are never longer than the element: the bound on the whole is handed on to
    whoever shows that they are well formed -/
theorem elem_ok (cls : Nat) (c : Bool) (tag : Nat) (contents : Bytes)
    (ht : tag < 18446744073709551616) (hl : (element cls c tag contents).length < 18446744073709551616)
    (hc : c = true → contents.length < 18446744073709551616 → Elems contents)
    (hp : c = false → cls = 0 → primitiveOk tag contents = true) :
    IsElem (element cls c tag contents) := by
  have hcl := Nat.lt_of_le_of_lt (element_length_ge cls c tag contents) hl
  rw [element, ← header_eq cls c tag _ ht hcl]
  have hsz := header_size_ge cls c tag contents.length
  have hread := fun rest => readHeader_tagPart_lenPart cls c tag contents.length rest
    (Nat.lt_of_lt_of_le ht (by decide)) (Nat.lt_of_lt_of_le hcl (by decide))
  refine ⟨⟨cls, c, tag, contents.length, (header cls c tag contents.length).length⟩, ?_, ?_, hsz, ?_⟩
  · intro tail; rw [List.append_assoc]; exact hread _
  · simp
  · intro fuel hf
    simp only [List.length_append] at hf
    cases fuel with
    | zero => omega
    | succ f =>
      rw [wellFormedFuel, hread contents]
      simp only [List.length_append, List.drop_left']
      cases c with
      | true => simp [seq_ok (hc rfl hcl) f (by omega)]
      | false =>
        by_cases h0 : cls = 0
        · simp [h0, hp rfl h0]
        · simp [h0]

theorem elems_single {e : Bytes} (h : IsElem e) : Elems e :=
  List.append_nil e ▸ Elems.cons h .nil

theorem tagged_elem (p : Params) (c : Bool) (tag : Nat) (contents : Bytes)
    (hp : paramsOK p = true) (ht : tag < 18446744073709551616)
    (hl : (tagged p c tag contents).length < 18446744073709551616)
    (hc : c = true → contents.length < 18446744073709551616 → Elems contents)
    (hpr : c = false → primitiveOk tag contents = true) :
    IsElem (tagged p c tag contents) := by
  -- `elem_ok`'s premise `cls = 0` at the universal class
  have hprim : c = false → (0 : Nat) = 0 → primitiveOk tag contents = true := fun hc' _ => hpr hc'
  rcases tagging_cases p c tag contents with ⟨_, _, e⟩ | ⟨n, hn, _, _, e⟩ | ⟨n, hn, _, _, e⟩ <;> rw [e] at hl ⊢
  · exact elem_ok 0 c tag contents ht hl hc hprim
  · exact elem_ok 2 c n contents (paramsOK_tag hp hn) hl hc fun _ h0 => absurd h0 (by decide)
  · exact elem_ok 2 true n _ (paramsOK_tag hp hn) hl
      (fun _ hl' => elems_single (elem_ok 0 c tag contents ht hl' hc hprim)) nofun

/-- a universal tag number whose contents the walker does not constrain -/
def freeTag (t : Nat) : Bool := t != 1 && t != 2 && t != 3 && t != 5 && t != 10

def strParamOK (p : Params) : Bool := p.stringType == 0 || freeTag p.stringType

mutual
/-- character-string tags are not those of BOOLEAN / INTEGER / BIT STRING / NULL / ENUMERATED -/
def strOK : Ty → Bool
  | .ptr t => strOK t
  | .slice t => strOK t
  | .wrap t => strOK t
  | .choice alts => strOKFs alts
  | .struct fs => strOKFs fs
  | .str d => freeTag d
  | _ => true
def strOKFs : Fields → Bool
  | .nil => true
  | .cons p t r => strParamOK p && strOK t && strOKFs r
end

mutual
/-- a BIT STRING without octets has a bit length that is a multiple of 8: the encoder writes `(8 - n % 8) % 8` as the
    unused-bits octet, and the walker accepts a BIT STRING without octets only with 0 there -/
def bitsOK : Val → Bool
  | .bits b n => b.length != 0 || n % 8 == 0
  | .list vs => bitsOKs vs
  | .choice _ vs => bitsOKs vs
  | .struct vs => bitsOKs vs
  | _ => true
def bitsOKs : Vals → Bool
  | .nil => true
  | .cons v r => bitsOK v && bitsOKs r
end

theorem primitiveOk_free (t : Nat) (c : Bytes) (h : freeTag t = true) : primitiveOk t c = true := by
  simp [freeTag] at h
  unfold primitiveOk
  simp [h.1.1.1.1, h.1.1.1.2, h.1.1.2, h.1.2, h.2]

theorem strTag_free (p : Params) (d : Nat) (hd : freeTag d = true) (hp : strParamOK p = true) :
    freeTag (if p.stringType = 0 then d else p.stringType) = true := by
  unfold strParamOK at hp
  split
  · exact hd
  · rename_i h; simp [h] at hp; exact hp

theorem leaf_wf {t : Ty} {p : Params} {v : Val} {l : Leaf} (h : leaf t p v = some l) (hs : strOK t = true)
    (hsp : strParamOK p = true) (hv : valOK v = true) (hb : bitsOK v = true) :
    (l.constructed = true → Elems (l.contents integerContents)) ∧
    (l.constructed = false → primitiveOk l.tag (l.contents integerContents) = true) := by
  have int : ∀ i, valOK (.int i) = true → minimalInt (integerContents i) = true := fun i hi => by
    have hi : int64 i := by simpa [valOK, int64] using hi
    rw [← intBytes_eq i hi]; exact minimalInt_intBytes i hi
  unfold leaf at h
  -- one goal per row of `leaf`, in its order; of the two conjuncts the one about the other constructed bit is void
  split at h <;> cases h <;> refine ⟨fun hc => ?_, fun hc => ?_⟩ <;> try cases hc
  · rename_i x; cases x <;> decide
  · simp [primitiveOk, int _ hv]
  · simp [primitiveOk, int _ hv]
  · -- BIT STRING: the unused-bits octet is below 8, and 0 when there are no octets
    rename_i bs n
    cases bs with
    | nil =>
      have : n % 8 = 0 := by simpa [bitsOK] using hb
      simp [primitiveOk, this]
    | cons x r => simp [primitiveOk]; omega
  · simp [primitiveOk]
  · simp [primitiveOk]
  · simp [primitiveOk]
  · -- character string: its tag is none of those the walker checks contents for
    rw [stringTag_eq]; exact primitiveOk_free _ _ (strTag_free p _ (by simpa [strOK] using hs) hsp)
  · -- nil SEQUENCE OF: the one constructed row, with no elements
    exact Elems.nil

theorem encode_wf_all :
    (∀ t p v, ∀ b, tagsOK t = true → strOK t = true → paramsOK p = true → strParamOK p = true → valOK v = true →
        bitsOK v = true → encode t p v = some b → b.length < 18446744073709551616 → IsElem b) ∧
    (∀ t p vs, ∀ b, tagsOK t = true → strOK t = true → paramsOK p = true → strParamOK p = true → valsOK vs = true →
        bitsOKs vs = true → encodeList t p vs = some b → b.length < 18446744073709551616 → Elems b) ∧
    (∀ fs vs, ∀ b, tagsOKFs fs = true → strOKFs fs = true → valsOK vs = true → bitsOKs vs = true →
        encodeMembers fs vs = some b → b.length < 18446744073709551616 → Elems b) ∧
    (∀ fs vs n, ∀ b, tagsOKFs fs = true → strOKFs fs = true → valsOK vs = true → bitsOKs vs = true →
        encodeAlt fs vs n = some b → b.length < 18446744073709551616 → IsElem b) :=
  shape_induct {
    flat := fun t p v h b ht hs hp hsp hv hb he hl => by
      rw [encode_flat h] at he
      obtain ⟨l, hlf, rfl⟩ := Option.map_eq_some_iff.mp he
      have hw := leaf_wf hlf hs hsp hv hb
      exact tagged_elem p _ _ _ hp (leaf_tag_lt hlf ht hp) hl (fun hc _ => hw.1 hc) hw.2
    ptr := fun t p v hn ih b ht hs hp hsp hv hb he hl => by
      rw [encode_ptr hn] at he; exact ih b ht hs hp hsp hv hb he hl
    wrap := fun t p v ih b ht hs hp hsp hv hb he hl => by
      rw [encode_wrap] at he; exact ih b ht hs hp hsp hv hb he hl
    choice := fun alts p k vs ih b ht hs hp hsp hv hb he hl => by
      rw [encode_choice] at he
      split at he
      · cases he
      · cases htn : p.tagNumber with
        | none => rw [htn] at he; exact ih b ht hs hv hb he hl
        | some n =>
          rw [htn] at he
          obtain ⟨inner, hin, rfl⟩ := Option.map_eq_some_iff.mp he
          exact elem_ok 2 true n inner (paramsOK_tag hp htn) hl
            (fun _ hl' => elems_single (ih inner ht hs hv hb hin hl')) nofun
    struct := fun fs p vs ih b ht hs hp hsp hv hb he hl => by
      rw [encode_struct] at he
      split at he
      · cases he
      · obtain ⟨c, hc, rfl⟩ := Option.map_eq_some_iff.mp he
        exact tagged_elem p true _ c hp seqTag_lt hl (fun _ => ih c ht hs hv hb hc) nofun
    list := fun t p vs ih b ht hs hp hsp hv hb he hl => by
      rw [encode_list] at he
      obtain ⟨c, hc, rfl⟩ := Option.map_eq_some_iff.mp he
      exact tagged_elem p true _ c hp seqTag_lt hl
        (fun _ => ih c ht hs (paramsOK_untag hp) (by simpa [strParamOK] using hsp) hv hb hc) nofun
    elemsNil := fun t p b _ _ _ _ _ _ he _ => by rw [encodeList_nil] at he; cases he; exact Elems.nil
    elemsCons := fun t p v vs ih1 ih2 b ht hs hp hsp hv hb he hl => by
      rw [encodeList_cons] at he
      obtain ⟨x, y, hx, hy, rfl⟩ := cat_eq_some.mp he
      simp only [valsOK, bitsOKs, Bool.and_eq_true] at hv hb
      rw [List.length_append] at hl
      exact Elems.cons (ih1 x ht hs hp hsp hv.1 hb.1 hx (by omega)) (ih2 y ht hs hp hsp hv.2 hb.2 hy (by omega))
    membersNil := fun vs b _ _ _ _ he _ => by rw [encodeMembers_nil] at he; cases he; exact Elems.nil
    membersShort := fun p t r b _ _ _ _ he _ => by rw [encodeMembers_short] at he; cases he
    membersCons := fun p t r v vs ih1 ih2 b ht hs hv hb he hl => by
      simp only [valsOK, bitsOKs, tagsOKFs, strOKFs, Bool.and_eq_true] at hv hb ht hs
      rw [encodeMembers_cons] at he
      split at he
      · exact ih2 b ht.2 hs.2 hv.2 hb.2 he hl
      · split at he
        · cases he
        · obtain ⟨x, y, hx, hy, rfl⟩ := cat_eq_some.mp he
          rw [List.length_append] at hl
          exact Elems.cons (ih1 x ht.1.2 hs.1.2 ht.1.1 hs.1.1 hv.1 hb.1 hx (by omega)) (ih2 y ht.2 hs.2 hv.2 hb.2 hy (by omega))
    altNil := fun fs vs n h b _ _ _ _ he _ => by rw [encodeAlt_nil h] at he; cases he
    altZero := fun p t r v vs ih b ht hs hv hb he hl => by
      simp only [valsOK, bitsOKs, tagsOKFs, strOKFs, Bool.and_eq_true] at hv hb ht hs
      rw [encodeAlt_zero] at he; exact ih b ht.1.2 hs.1.2 ht.1.1 hs.1.1 hv.1 hb.1 he hl
    altSucc := fun p t r v vs n ih b ht hs hv hb he hl => by
      simp only [valsOK, bitsOKs, tagsOKFs, strOKFs, Bool.and_eq_true] at hv hb ht hs
      rw [encodeAlt_succ] at he; exact ih b ht.2 hs.2 hv.2 hb.2 he hl }

end Chf.X690
