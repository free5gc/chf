import ChfVerif.Lemmas.BerHeader
/- the reference reader reads back the identifier and length octets the codec writes (towards C04 well-formedness): the
   tag stage and the length stage against `tagPart` and `lenPart`, as Lemmas/BerParseHeader.lean does for the decoder -/
namespace Chf.X690
open Chf Chf.Ber

theorem readBase128_digits (init : Bytes) (last : Nat) (rest : Bytes) (hlt : ∀ d ∈ init ++ [last], d < 128) :
    ∀ (acc n : Nat), readBase128 (init.map (· + 128) ++ [last] ++ rest) acc n =
      some (ofDigits 128 (init ++ [last]) acc, n + init.length + 1) := by
  induction init with
  | nil =>
    intro acc n
    have : ¬ last ≥ 128 := Nat.not_le_of_lt (hlt last (by simp))
    simp [readBase128, this, ofDigits]
  | cons d r ih =>
    intro acc n
    have hd : d < 128 := hlt d (by simp)
    simp only [List.map_cons, List.cons_append, readBase128, show d + 128 ≥ 128 by omega, if_true]
    rw [ih (fun x hx => hlt x (List.mem_cons_of_mem _ hx)), Nat.add_sub_cancel]
    simp [ofDigits]; omega

/-- identifier octets after the first: (tag number, identifier octets used, what follows) -/
def readTag (b0 : Nat) (r : Bytes) : Option (Nat × Nat × Bytes) :=
  if b0 % 32 < 31 then some (b0 % 32, 1, r)
  else
    match r with
    | [] => none
    | x :: _ =>
      if x = 128 then none
      else match readBase128 r 0 0 with
        | some (t, n) => if t < 31 then none else some (t, 1 + n, r.drop n)
        | none => none

/-- the length stage of `readHeader`, given what the tag stage found -/
def readLen (cls : Nat) (cons : Bool) (tag used : Nat) (rest : Bytes) : Option Hdr :=
  match rest with
  | [] => none
  | l0 :: rest' =>
    if l0 < 128 then some ⟨cls, cons, tag, l0, used + 1⟩
    else if l0 = 128 ∨ l0 = 255 then none
    else
      let n := l0 - 128
      if rest'.length < n then none
      else
        let ds := rest'.take n
        if ds.head? = some 0 then none
        else
          let l := readBase256 ds 0
          if l < 128 then none
          else some ⟨cls, cons, tag, l, used + 1 + n⟩

theorem readHeader_eq (b0 : Nat) (r : Bytes) :
    readHeader (b0 :: r) =
      match readTag b0 r with
      | none => none
      | some (tag, used, rest) => readLen (b0 / 64) (decide (b0 / 32 % 2 = 1)) tag used rest := by
  unfold readHeader readTag readLen
  rfl

theorem readLen_long (cls : Nat) (c : Bool) (tag used : Nat) (ds rest : Bytes) (h1 : 1 ≤ ds.length) (h2 : ds.length < 127)
    (h0 : ds.head? ≠ some 0) (hv : 128 ≤ readBase256 ds 0) :
    readLen cls c tag used ((128 + ds.length) :: (ds ++ rest)) =
      some ⟨cls, c, tag, readBase256 ds 0, used + 1 + ds.length⟩ := by
  simp only [readLen, show ¬ 128 + ds.length < 128 by omega, show ¬ (128 + ds.length = 128 ∨ 128 + ds.length = 255) by omega,
    show ¬ (ds ++ rest).length < ds.length by simp, show ¬ readBase256 ds 0 < 128 by omega, if_false,
    Nat.add_sub_cancel_left, List.take_left', h0]

theorem readLen_lenPart (cls : Nat) (c : Bool) (tag used len : Nat) (rest : Bytes) (hlen : len < 256 ^ 9) :
    readLen cls c tag used (lenPart len ++ rest) = some ⟨cls, c, tag, len, used + (lenPart len).length⟩ := by
  unfold lenPart
  split
  · simp [readLen, show len < 128 by omega]
  · obtain ⟨h1, h9, h0, hv⟩ := lenDigits_spec (k := 8) len (by decide) hlen
    rw [← readBase256_eq_ofDigits] at hv
    rw [List.cons_append, readLen_long _ _ _ _ _ _ h1 (by omega) (h0 (by omega)) (by omega), hv, List.length_cons,
      Nat.add_assoc, Nat.add_comm 1]

theorem readTag_high (b0 : Nat) (ds : List Nat) (last : Nat) (tail : Bytes) (hb : ¬ b0 % 32 < 31)
    (hlt : ∀ d ∈ ds ++ [last], d < 128) (h0 : (ds ++ [last]).head? ≠ some 0)
    (hv : ¬ ofDigits 128 (ds ++ [last]) 0 < 31) :
    readTag b0 (ds.map (· + 128) ++ [last] ++ tail) =
      some (ofDigits 128 (ds ++ [last]) 0, 1 + (ds.length + 1), tail) := by
  have hrb := readBase128_digits ds last tail hlt 0 0
  -- the first of these octets is not 0x80
  have hne : ∃ y r, ds.map (· + 128) ++ [last] ++ tail = y :: r ∧ y ≠ 128 := by
    cases ds with
    | nil => exact ⟨last, tail, rfl, Nat.ne_of_lt (hlt last (by simp))⟩
    | cons d r => exact ⟨d + 128, _, rfl, by have : d ≠ 0 := (by simpa using h0); omega⟩
  obtain ⟨y, r, ey, hy⟩ := hne
  have hl : (ds.map (· + 128) ++ [last]).length = ds.length + 1 := by simp
  rw [ey] at hrb ⊢
  simp only [readTag, hb, hy, hrb, hv, if_false, Nat.zero_add]
  rw [← ey, List.drop_left' hl]

theorem readTag_tagPart (first tag : Nat) (tail : Bytes) (hf3 : first % 32 = 0) (ht : tag < 128 ^ 11) :
    ∃ b0 r, tagPart first tag ++ tail = b0 :: r ∧ b0 / 32 = first / 32 ∧
      readTag b0 r = some (tag, (tagPart first tag).length, tail) := by
  unfold tagPart
  split
  · obtain ⟨hm, hd⟩ := lead_octet (k := tag) hf3 (by omega)
    exact ⟨first + tag, tail, rfl, hd, by unfold readTag; rw [hm, if_pos (by omega)]; rfl⟩
  · obtain ⟨hm, hd⟩ := lead_octet (k := 31) hf3 (by omega)
    obtain ⟨init, last, hT, hlt, _, h0, hv⟩ := highTag_spec (k := 10) tag (by decide) ht
    refine ⟨first + 31, highTag tag ++ tail, rfl, hd, ?_⟩
    rw [hT, readTag_high _ init _ tail (by omega) hlt (h0 (by omega)) (by omega), hv]
    simp [Nat.add_comm]

/-- the reference reader reads back what appendTagAndLen wrote, for every tag number and length that the digit
    loops of both sides can hold (11 base-128 digits, 9 base-256 digits) -/
theorem readHeader_tagPart_lenPart (cls : Nat) (c : Bool) (tag len : Nat) (rest : Bytes)
    (htag : tag < 128 ^ 11) (hlen : len < 256 ^ 9) :
    readHeader (header cls c tag len ++ rest) =
      some ⟨cls, c, tag, len, (header cls c tag len).length⟩ := by
  rw [header_split, List.append_assoc]
  obtain ⟨b0, r, hb, h1, h2⟩ := readTag_tagPart (cls * 64 + (if c then 32 else 0)) tag (lenPart len ++ rest)
    (by split <;> omega) htag
  rw [hb, readHeader_eq, h2]
  simp only
  rw [readLen_lenPart _ _ _ _ _ _ hlen, (lead_fields cls c b0 h1).1, (lead_fields cls c b0 h1).2, List.length_append]

theorem readHeader_header (cls : Nat) (c : Bool) (tag len : Nat) (rest : Bytes)
    (hcls : cls < 4) (htag : tag < 18446744073709551616) (hlen : len < 18446744073709551616) :
    readHeader (header cls c tag len ++ rest) =
      some ⟨cls, c, tag, len, (header cls c tag len).length⟩ :=
  readHeader_tagPart_lenPart cls c tag len rest (Nat.lt_of_lt_of_le htag (by decide)) (Nat.lt_of_lt_of_le hlen (by decide))

end Chf.X690
