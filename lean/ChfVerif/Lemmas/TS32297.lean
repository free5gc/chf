import ChfVerif.Lemmas.CdrFile
/- the independent reader recovers what the encoder model wrote (C15, C03): one lemma per parser, so that reading an
   encoding is a chain of rewrites along the layout -/
namespace Chf.TS32297
open Chf Chf.CdrFile

theorem u8_cons (x : Nat) (r : Bytes) : u8 (x :: r) = some (x, r) := rfl

theorem u16_cons (a b : Nat) (r : Bytes) : u16 (a :: b :: r) = some (rd16 a b, r) := by
  rw [u16, rd16, Nat.mul_comm]

theorem u32_cons (a b c d : Nat) (r : Bytes) : u32 (a :: b :: c :: d :: r) = some (rd32 a b c d, r) := by
  simp only [u32, rd32, Option.some.injEq, Prod.mk.injEq, and_true]; omega

theorem u16_be16 {x : Nat} (h : x < 65536) (r : Bytes) : u16 (be16 x ++ r) = some (x, r) := by
  rw [be16, List.cons_append, List.cons_append, u16_cons, rd16_be16 h]; rfl

theorem u32_be32 {x : Nat} (h : x < 4294967296) (r : Bytes) : u32 (be32 x ++ r) = some (x, r) := by
  rw [be32, List.cons_append, List.cons_append, List.cons_append, List.cons_append, u32_cons, rd32_be32 h]; rfl

theorem octets_append {n : Nat} {a : Bytes} (h : a.length = n) (r : Bytes) :
    octets n (a ++ r) = some (a, r) := by
  subst h
  unfold octets
  simp

theorem field_packId_hi {rel ver : Nat} (h1 : rel < 8) (h2 : ver < 32) : field (packId rel ver) 5 3 = rel := by
  rw [packId_eq h1 h2]; exact (congrArg (· % 8) (mul_add_div_of_lt h2)).trans (Nat.mod_eq_of_lt h1)

theorem field_packId_lo {rel ver : Nat} (h1 : rel < 8) (h2 : ver < 32) : field (packId rel ver) 0 5 = ver := by
  rw [packId_eq h1 h2]; exact (congrArg (· % 32) (Nat.div_one _)).trans (Nat.mul_add_mod_of_lt h2)

/-- a release identifier extension octet: written, and read, exactly when the release identifier is 7 -/
theorem u8_ext {rel e : Nat} (h : rel ≠ 7 → e = 0) (r : Bytes) :
    (if rel = 7 then u8 ((if rel = 7 then [e] else []) ++ r) else some (0, (if rel = 7 then [e] else []) ++ r)) =
      some (e, r) := by
  by_cases h7 : rel = 7
  · simp only [h7, if_true]; rfl
  · simp only [h7, if_false, h h7]; rfl

theorem header_encode {h : FileHeader} (hw : h.WF) (rest : Bytes) :
    header (encodeHeader h ++ rest) = some (h, rest) := by
  obtain ⟨w1, w2, w3, w4, w5, w6, w7, w8, w9, w10, _, w12, _, _, w15, w16, _, w18, w19, _, _, _, w23, w24⟩ := hw
  unfold header encodeHeader fixedPart extPart
  simp only [List.append_assoc, List.cons_append, List.nil_append, u32_be32 w1, u32_be32 w2, u8_cons,
    u32_be32 (packTs_lt w7), u32_be32 (packTs_lt w8), u32_be32 w9, u32_be32 w10, octets_append w12, u16_be16 w15,
    octets_append w16, u16_be16 w18, octets_append w19, field_packId_hi w3 w4, field_packId_lo w3 w4,
    field_packId_hi w5 w6, field_packId_lo w5 w6, timeStamp_packTs w7, timeStamp_packTs w8, u8_ext w23, u8_ext w24]

theorem record_encode {c : Cdr} (hw : c.WF) (rest : Bytes) :
    record (encodeCdr c ++ rest) = some (c, rest) := by
  obtain ⟨⟨g1, g2, g3, g4, g5, g6, g7⟩, hlen, _⟩ := hw
  unfold record encodeCdr encodeCdrHeader
  simp only [List.append_assoc, List.cons_append, List.nil_append, u16_be16 g1, u8_cons, field_packId_hi g2 g3,
    field_packId_lo g2 g3, field_packId_hi g4 g5, field_packId_lo g4 g5, u8_ext g7, octets_append hlen]

theorem records_encode (cs : List Cdr) (hw : ∀ c ∈ cs, c.WF) (rest : Bytes) :
    records cs.length (encodeCdrs cs ++ rest) = some (cs, rest) := by
  induction cs with
  | nil => rfl
  | cons c r ih =>
    simp only [List.length_cons, records, encodeCdrs, List.append_assoc, record_encode (hw c List.mem_cons_self),
      ih fun x hx => hw x (List.mem_cons_of_mem c hx)]

theorem records_encodeCdrs {f : File} (hw : f.WF) : records f.hdr.numCdrs (encodeCdrs f.cdrs) = some (f.cdrs, []) := by
  have := records_encode f.cdrs hw.2.2 []
  rwa [List.append_nil, ← hw.2.1] at this

theorem read_encodeFile (f : File) (hw : f.WF) : read (encodeFile f) = some f := by
  rw [read, encodeFile, header_encode hw.1]
  simp only [records_encodeCdrs hw]

/-- a well-formed file whose two length fields are the real sizes passes the run-time oracle of C03 -/
theorem lengthsConsistent_encodeFile (f : File) (hw : f.WF) (hfl : f.hdr.fileLength = (encodeFile f).length)
    (hhl : f.hdr.headerLength = (encodeHeader f.hdr).length) : lengthsConsistent (encodeFile f) = true := by
  rw [encodeFile] at hfl ⊢
  rw [lengthsConsistent, header_encode hw.1]
  simp only [records_encodeCdrs hw, hfl, hhl, List.length_append, Nat.add_sub_cancel, decide_true, Bool.and_self]

end Chf.TS32297
