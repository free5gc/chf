import ChfVerif.Lemmas.BerHeader
import ChfVerif.Lemmas.BerSafe
/- the decoder's header parser reads back the identifier and length octets the codec writes (C05): the tag stage and the
   length stage against `tagPart` and `lenPart`, as Lemmas/X690Header.lean does for the reference reader -/
namespace Chf.Ber
open Chf

theorem idx_at (pre : Bytes) (x : Nat) (more : Bytes) : idx (pre ++ x :: more) pre.length = .ok x := by
  unfold idx; simp

theorem sub_at (pre ds rest : Bytes) : sub (pre ++ (ds ++ rest)) pre.length (pre.length + ds.length) = .ok ds := by
  unfold sub
  have : pre.length ≤ pre.length + ds.length ∧ pre.length + ds.length ≤ (pre ++ (ds ++ rest)).length := by
    simp
  rw [if_pos this]
  simp

/-- the long form is read back from any string of one to eight octets whose value passes the decoder's two checks:
    not negative as an int64, not beyond the input -/
theorem parseLen_long (pre ds rest : Bytes) (cls : Nat) (c : Bool) (tag : Nat) (h1 : 1 ≤ ds.length) (h8 : ds.length ≤ 8)
    (hv : beValue ds 0 < 9223372036854775808)
    (hfit : beValue ds 0 ≤ (pre ++ ((128 + ds.length) :: (ds ++ rest))).length) :
    parseLen (pre ++ ((128 + ds.length) :: (ds ++ rest))) cls c tag pre.length =
      .ok ⟨cls, c, tag, beValue ds 0, pre.length + 1 + ds.length⟩ := by
  have hsub := sub_at (pre ++ [128 + ds.length]) ds rest
  simp only [List.append_assoc, List.singleton_append, List.length_append, List.length_cons, List.length_nil,
    Nat.zero_add] at hsub
  unfold parseLen
  rw [if_neg (by simp), idx_at]
  simp only [show ¬ (128 + ds.length ≤ 127) by omega, show (128 + ds.length) % 128 = ds.length by omega,
    show ¬ ds.length > 8 by omega, show ¬ ds.length = 0 by omega, if_false, hsub]
  rw [if_neg (by simp only [List.length_append, List.length_cons]; omega), if_neg (by omega)]

/-- the length stage reads back `lenPart len`; 2^63 is the decoder's `val < 0` test on the accumulated int64 -/
theorem parseLen_lenPart (pre rest : Bytes) (cls : Nat) (c : Bool) (tag len : Nat)
    (hlen : len < 9223372036854775808) (hfit : len ≤ (pre ++ (lenPart len ++ rest)).length) :
    parseLen (pre ++ (lenPart len ++ rest)) cls c tag pre.length =
      .ok ⟨cls, c, tag, len, pre.length + (lenPart len).length⟩ := by
  unfold lenPart at hfit ⊢
  split
  · unfold parseLen
    rw [if_neg (by simp), List.singleton_append, idx_at]
    simp only [‹len ≤ 127›, if_true, List.length_singleton]
  · obtain ⟨h1, h8, _, hv⟩ := lenDigits_spec (k := 7) len (by decide) (by omega)
    rw [← beValue_eq_ofDigits] at hv
    rw [if_neg ‹_›] at hfit
    rw [List.cons_append, parseLen_long pre _ rest cls c tag h1 h8 (by omega) (by rw [hv]; exact hfit), hv, List.length_cons,
      Nat.add_assoc, Nat.add_comm 1]

theorem highTagLoop_digits (init : Bytes) (last : Nat) (rest : Bytes) (hlt : ∀ d ∈ init ++ [last], d < 128) :
    ∀ (pre : Bytes) (acc fuel : Nat), init.length + 1 ≤ fuel →
    ofDigits 128 (init ++ [last]) acc < 18446744073709551616 →
    highTagLoop (pre ++ (init.map (· + 128) ++ [last] ++ rest)) pre.length acc fuel =
      (ofDigits 128 (init ++ [last]) acc, pre.length + init.length + 1) := by
  induction init with
  | nil =>
    intro pre acc fuel hf hv
    have hlast : last < 128 := hlt last (by simp)
    cases fuel with
    | zero => omega
    | succ f =>
      simp only [List.map_nil, List.nil_append, highTagLoop]
      rw [show (pre ++ ([last] ++ rest))[pre.length]? = some last by simp]
      simp only [ofDigits, List.nil_append, List.foldl_cons, List.foldl_nil] at hv ⊢
      simp [show ¬ last ≥ 128 by omega, Nat.mod_eq_of_lt hlast, Nat.mod_eq_of_lt hv]
  | cons d r ih =>
    intro pre acc fuel hf hv
    have hd : d < 128 := hlt d (by simp)
    cases fuel with
    | zero => simp at hf
    | succ f =>
      simp only [List.map_cons, List.cons_append, highTagLoop]
      rw [show (pre ++ (d + 128) :: (List.map (· + 128) r ++ [last] ++ rest))[pre.length]? = some (d + 128) by simp]
      have hacc : acc * 128 + d < 18446744073709551616 :=
        Nat.lt_of_le_of_lt (le_ofDigits 128 (by decide) (r ++ [last]) _) hv
      simp only [show d + 128 ≥ 128 by omega, if_true, show (d + 128) % 128 = d by omega, Nat.mod_eq_of_lt hacc]
      have := ih (fun x hx => hlt x (List.mem_cons_of_mem _ hx)) (pre ++ [d + 128]) (acc * 128 + d) f
        (by simp at hf ⊢; omega) hv
      simpa [ofDigits, Nat.add_assoc, Nat.add_comm 1] using this

/-- the tag stage reads back `tagPart first tag`; the decoder allows nine octets after the leading one, and
    `128 ^ 9 = 2 ^ 63` -/
theorem parseTag_tagPart (first tag : Nat) (tail : Bytes) (hf : first % 32 = 0)
    (htag : tag < 9223372036854775808) :
    ∃ b0 r, tagPart first tag ++ tail = b0 :: r ∧ b0 / 32 = first / 32 ∧
      parseTag b0 r = (tag, (tagPart first tag).length) ∧ ¬ (b0 % 32 = 31 ∧ (tagPart first tag).length > 10) := by
  unfold tagPart
  split
  · obtain ⟨hm, hd⟩ := lead_octet (k := tag) hf (by omega)
    exact ⟨first + tag, tail, rfl, hd, by rw [parseTag, hm, if_pos (by omega)]; rfl, by omega⟩
  · obtain ⟨hm, hd⟩ := lead_octet (k := 31) hf (by omega)
    obtain ⟨init, last, hT, hlt, hlen, _, hv⟩ := highTag_spec (k := 8) tag (by decide) (by omega)
    have hloop := highTagLoop_digits init last tail hlt [first + 31] 0
      ((first + 31) :: (init.map (· + 128) ++ [last] ++ tail)).length (by simp) (by rw [hv]; omega)
    rw [List.singleton_append, List.length_singleton, hv] at hloop
    refine ⟨first + 31, highTag tag ++ tail, rfl, hd, ?_, ?_⟩ <;> rw [hT]
    · rw [parseTag, hm, if_neg (by omega), hloop]
      simp [Nat.add_comm]
    · simp at hlen ⊢; omega

/-- C05 (header): parseTagAndLength reads back exactly what appendTagAndLen wrote, whatever follows -/
theorem parse_header (cls : Nat) (c : Bool) (tag len : Nat) (rest : Bytes)
    (htag : tag < 9223372036854775808) (hlen : len < 9223372036854775808)
    (hfit : len ≤ (header cls c tag len ++ rest).length) :
    parseTagAndLength (header cls c tag len ++ rest) =
      .ok ⟨cls, c, tag, len, (header cls c tag len).length⟩ := by
  rw [header_split, List.append_assoc] at hfit ⊢
  obtain ⟨b0, r, hb, h1, h2, h3⟩ := parseTag_tagPart (cls * 64 + (if c then 32 else 0)) tag (lenPart len ++ rest)
    (by split <;> omega) htag
  rw [hb, parseTagAndLength_cons, h2]
  simp only [h3, if_false]
  rw [← hb, (lead_fields cls c b0 h1).1, (lead_fields cls c b0 h1).2, List.length_append]
  exact parseLen_lenPart _ rest cls c tag len hlen hfit

end Chf.Ber
