import ChfVerif.Lemmas.BerDigits
/- integer contents: model encoder = reference encoder, and the decoder inverts it.
   Both `intLen` and `intWidth` compute the least `n ≥ 1` with `FitsOctets n i`; `intOctets i n` is `i mod 2^(8n)` in
   `n` big-endian octets.  Everything is by induction on the width, the step being `i ↦ i / 256`. -/
namespace Chf.Ber
open Chf Chf.X690

/-! ### arithmetic: the one step `n ↦ n + 1` octets -/

theorem two_pow_octets_succ (n : Nat) : (2 : Int) ^ (8 * (n + 1)) = 256 * 2 ^ (8 * n) := by
  rw [Nat.mul_succ, Int.pow_add, Int.mul_comm]; rfl

theorem two_pow_pred (w : Nat) (h : 1 ≤ w) : (2 : Int) ^ w = 2 * 2 ^ (w - 1) := by
  rw [← Int.pow_succ']; congr 1; omega

theorem two_pow_sign_succ (n : Nat) (h : 1 ≤ n) : (2 : Int) ^ (8 * (n + 1) - 1) = 256 * 2 ^ (8 * n - 1) := by
  rw [show 8 * (n + 1) - 1 = (8 * n - 1) + 8 by omega, Int.pow_add, Int.mul_comm]; rfl

/-- the low `n + 1` octets of `i` are the low octet of `i` below the low `n` octets of `i / 256` -/
theorem emod_octets_succ (i P : Int) (hP : 0 < P) : i % (256 * P) = 256 * (i / 256 % P) + i % 256 := by
  have h1 := Int.emod_add_mul_ediv (i / 256) P
  have h2 := Int.emod_nonneg (i / 256) (Int.ne_of_gt hP)
  have h3 := Int.emod_lt_of_pos (i / 256) hP
  refine ((Int.ediv_emod_unique (q := i / 256 / P) (Int.mul_pos (by decide) hP)).2 ⟨?_, by omega, by omega⟩).2
  rw [Int.mul_assoc]; omega

/-! ### `FitsOctets n i`: `i` has a two's-complement representation in `n` octets -/

/-- the range test of `intWidth` (and, on the decoding side, the sign test of `parseSigned`) -/
def FitsOctets (n : Nat) (i : Int) : Prop := -(2 : Int) ^ (8 * n - 1) ≤ i ∧ i < (2 : Int) ^ (8 * n - 1)

instance (n : Nat) (i : Int) : Decidable (FitsOctets n i) := inferInstanceAs (Decidable (_ ∧ _))

theorem fitsOctets_one (i : Int) : FitsOctets 1 i ↔ -128 ≤ i ∧ i < 128 := Iff.rfl

theorem fitsOctets_succ (n : Nat) (i : Int) (h : 1 ≤ n) : FitsOctets (n + 1) i ↔ FitsOctets n (i / 256) := by
  unfold FitsOctets; rw [two_pow_sign_succ n h]; omega

/-! ### `intLen` and `intWidth` both compute the width of `i` -/

/-- `n` is the number of octets of the shortest two's-complement representation of `i` -/
def IsWidth (i : Int) (n : Nat) : Prop := 1 ≤ n ∧ FitsOctets n i ∧ ∀ m, 1 ≤ m → m < n → ¬ FitsOctets m i

theorem intLen_le (f : Nat) : ∀ i, intLen i f ≤ f + 1 := by
  induction f with
  | zero => intro i; unfold intLen; omega
  | succ f ih => intro i; unfold intLen; have := ih (i / 256); split <;> omega

/-- int64Encoder.Len counts how often `i` must be shifted right by an octet until it fits in one -/
theorem intLen_isWidth (f : Nat) : ∀ i n, 1 ≤ n → n ≤ f + 1 → FitsOctets n i → IsWidth i (intLen i f) := by
  induction f with
  | zero =>
    intro i n h1 h2 h
    rw [show n = 1 by omega] at h
    exact ⟨Nat.le_refl _, h, fun m _ h => absurd h (by unfold intLen; omega)⟩
  | succ f ih =>
    intro i n h1 h2 h
    unfold intLen
    split
    · obtain _ | _ | n := n
      · omega
      · rw [fitsOctets_one] at h; omega
      · obtain ⟨p, hf, hmin⟩ := ih (i / 256) (n + 1) (by omega) (by omega) ((fitsOctets_succ _ i (by omega)).1 h)
        refine ⟨by omega, (fitsOctets_succ _ i p).2 hf, fun m h1 h2 => ?_⟩
        obtain _ | _ | m := m
        · omega
        · rw [fitsOctets_one]; omega
        · rw [fitsOctets_succ _ i (by omega)]; exact hmin _ (by omega) (by omega)
    · exact ⟨Nat.le_refl _, (fitsOctets_one i).2 (by omega), fun m _ _ => by omega⟩

theorem intWidth_succ (i : Int) (fuel : Nat) :
    intWidth i (fuel + 1) = if FitsOctets (9 - (fuel + 1)) i then 9 - (fuel + 1) else intWidth i fuel := rfl

/-- `intWidth i fuel` tries `9 - fuel, …, 8` in turn -/
theorem intWidth_eq (fuel : Nat) (i : Int) (n : Nat) (h1 : 9 - fuel ≤ n) (h8 : n ≤ 8) (hn : FitsOctets n i)
    (hmin : ∀ m, 9 - fuel ≤ m → m < n → ¬ FitsOctets m i) : intWidth i fuel = n := by
  induction fuel with
  | zero => omega
  | succ fuel ih =>
    rw [intWidth_succ]
    by_cases e : 9 - (fuel + 1) = n
    · rw [e, if_pos hn]
    · rw [if_neg (hmin _ (Nat.le_refl _) (by omega))]
      exact ih (by omega) (fun m h => hmin m (by omega))

theorem intWidth_of_isWidth (i : Int) (n : Nat) (h : IsWidth i n) (h8 : n ≤ 8) : intWidth i 8 = n :=
  intWidth_eq 8 i n h.1 h8 h.2.1 fun m h1 => h.2.2 m h1

theorem length_intOctets (i : Int) (n : Nat) : (intOctets i n).length = n := by
  induction n generalizing i with
  | zero => rfl
  | succ n ih => simp [intOctets, ih]

theorem natOctets_succ (x n : Nat) : natOctets x (n + 1) = natOctets (x / 256) n ++ [x % 256] := by
  induction n with
  | zero => simp [natOctets]
  | succ n ih =>
    rw [natOctets, ih, Nat.pow_succ', ← Nat.div_div_eq_div_mul]; rfl

theorem toNat_emod_octets_succ (i : Int) (n : Nat) :
    (i % 2 ^ (8 * (n + 1))).toNat = (i / 256 % 2 ^ (8 * n)).toNat * 256 + (i % 256).toNat := by
  have hP : (0 : Int) < 2 ^ (8 * n) := Int.pow_pos (by decide)
  have := Int.emod_nonneg (i / 256) (Int.ne_of_gt hP)
  rw [two_pow_octets_succ, emod_octets_succ i _ hP]; omega

theorem intOctets_eq (n : Nat) : ∀ i : Int, intOctets i n = natOctets (i % 2 ^ (8 * n)).toNat n := by
  induction n with
  | zero => intro i; rfl
  | succ n ih =>
    intro i
    rw [intOctets, ih, natOctets_succ, toNat_emod_octets_succ]
    congr 2 <;> omega

theorem beValue_intOctets (n : Nat) : ∀ i : Int, beValue (intOctets i n) 0 = (i % 2 ^ (8 * n)).toNat := by
  induction n with
  | zero => intro i; simp [intOctets, beValue]
  | succ n ih =>
    intro i
    rw [intOctets, beValue_eq_ofDigits, ofDigits_append, ← beValue_eq_ofDigits, ih, toNat_emod_octets_succ]

theorem minimalInt_append (l m : Bytes) (h : 2 ≤ l.length) : minimalInt (l ++ m) = minimalInt l :=
  match l, h with
  | _ :: _ :: _, _ => rfl

/-- two leading octets `00 0xxxxxxx` or `FF 1xxxxxxx` would mean the value fits in one octet less -/
theorem minimalInt_intOctets (n : Nat) : ∀ i : Int, IsWidth i n → minimalInt (intOctets i n) = true := by
  induction n with
  | zero => intro i h; exact absurd h.1 (by decide)
  | succ n ih =>
    intro i ⟨_, h, hm⟩
    obtain _ | _ | n := n
    · rfl
    · have h := (fitsOctets_succ 1 i (by decide)).1 h
      have hm := hm 1 (by decide) (by decide)
      rw [fitsOctets_one] at h hm
      simp [intOctets, minimalInt]; omega
    · rw [intOctets, minimalInt_append _ _ (by rw [length_intOctets]; omega)]
      exact ih (i / 256) ⟨by omega, (fitsOctets_succ _ i (by omega)).1 h, fun m h1 h2 h' =>
        hm (m + 1) (by omega) (by omega) ((fitsOctets_succ _ i h1).2 h')⟩

theorem signed_emod (n : Nat) (i : Int) (h1 : 1 ≤ n) (h : FitsOctets n i) :
    (if (i % 2 ^ (8 * n)).toNat ≥ 2 ^ (8 * n - 1) then ((i % 2 ^ (8 * n)).toNat : Int) - 2 ^ (8 * n)
     else ((i % 2 ^ (8 * n)).toNat : Int)) = i := by
  unfold FitsOctets at h
  have hc : ((2 ^ (8 * n - 1) : Nat) : Int) = 2 ^ (8 * n - 1) := Int.natCast_pow 2 _
  rw [two_pow_pred (8 * n) (by omega)]
  by_cases hi : i < 0
  · rw [← Int.add_emod_right, Int.emod_eq_of_lt (by omega) (by omega)]; split <;> omega
  · rw [Int.emod_eq_of_lt (by omega) (by omega)]; split <;> omega

theorem parseSigned_intOctets (n : Nat) (i : Int) (h1 : 1 ≤ n) (h8 : n ≤ 8) (h : FitsOctets n i) :
    parseSigned (intOctets i n) = .ok i := by
  unfold parseSigned
  rw [length_intOctets, beValue_intOctets, if_neg (by omega), if_neg (by omega)]
  exact congrArg _ (signed_emod n i h1 h)

/-- what a Go int64 holds -/
def int64 (i : Int) : Prop := -9223372036854775808 ≤ i ∧ i ≤ 9223372036854775807

/-- the same range with its powers of two written out; `FitsOctets 8 i` unfolds to the right side -/
theorem int64_iff (i : Int) : int64 i ↔ -(2 : Int) ^ (64 - 1) ≤ i ∧ i < (2 : Int) ^ (64 - 1) := by
  rw [show (2 : Int) ^ (64 - 1) = 9223372036854775808 by decide]; unfold int64; omega

theorem width_int64 {w : Nat} (hw : w = 32 ∨ w = 64) {i : Int} (h : -(2 : Int) ^ (w - 1) ≤ i ∧ i < (2 : Int) ^ (w - 1)) :
    int64 i := by
  rcases hw with rfl | rfl
  · have h1 : (2 : Int) ^ (32 - 1) = 2147483648 := by decide
    rw [h1] at h; unfold int64; omega
  · exact (int64_iff i).mpr h

theorem intLen_int64 (i : Int) (h : int64 i) : IsWidth i (intLen i) ∧ intLen i ≤ 8 := by
  have h8 : FitsOctets 8 i := (int64_iff i).mp h
  have hw := intLen_isWidth 8 i 8 (by decide) (by decide) h8
  exact ⟨hw, Nat.le_of_not_lt fun hlt => hw.2.2 8 (by decide) hlt h8⟩

theorem intBytes_length_le (i : Int) : (intBytes i).length ≤ 9 := by
  unfold intBytes; rw [length_intOctets]; exact intLen_le 8 i

theorem intBytes_eq (i : Int) (h : int64 i) : intBytes i = integerContents i := by
  obtain ⟨hw, h8⟩ := intLen_int64 i h
  unfold intBytes integerContents
  rw [intWidth_of_isWidth i _ hw h8]
  exact intOctets_eq _ i

theorem parseSigned_intBytes (i : Int) (h : int64 i) : parseSigned (intBytes i) = .ok i :=
  have ⟨hw, h8⟩ := intLen_int64 i h
  parseSigned_intOctets _ i hw.1 h8 hw.2.1

theorem minimalInt_intBytes (i : Int) (h : int64 i) : minimalInt (intBytes i) = true :=
  minimalInt_intOctets _ i (intLen_int64 i h).1

end Chf.Ber
