import ChfVerif.Model.RecordBer
import ChfVerif.Lemmas.BerShape
import ChfVerif.Lemmas.BerHeader
/-
  Closed form of the octets of a CHF record: what `Ber.marshal` yields on the regenerated schema type
  for the value OpenCDR / UpdateCDR build, written out with `tlv`.  `recordBytes_eq` walks the regenerated
  `Gen.T_CHFRecord` member by member (the rules of Lemmas/BerShape.lean; the table enters through their `rfl` side
  conditions), so it is re-checked against the schema of the working tree on every run.
-/
namespace Chf.RecordBer
open Chf Chf.Ber Chf.Charging

/-- an INTEGER / ENUMERATED member under IMPLICIT context tag k -/
def intF (k : Nat) (i : Int) : Bytes := tlv 2 false k (intBytes i)

def contEnc (c : Container) : Bytes :=
  tlv 0 true 16 (intF 4 c.total ++ (intF 5 c.up ++ (intF 6 c.down ++ (intF 7 c.ssu ++ (intF 9 c.lsn ++ [])))))

def contsEnc : List Container → Bytes
  | [] => []
  | c :: r => contEnc c ++ contsEnc r

def usageEnc (u : RecUsage) : Bytes :=
  tlv 0 true 16 (intF 0 u.rg ++ (tlv 2 true 1 (contsEnc u.cs) ++ (tlv 2 false 2 u.upf ++ [])))

def usagesEnc : List RecUsage → Bytes
  | [] => []
  | u :: r => usageEnc u ++ usagesEnc r

section
variable {p : Params} (hn : p.tagNumber = none) (hs : p.set = false)
include hn hs

theorem finish_seq (c : Bytes) : finish p true (seqTag p) c = tlv 0 true 16 c := by
  simp [finish, seqTag, hn, hs]

theorem container_eq (c : Container) : marshal Gen.T_UsedUnitContainer p (containerVal c) = .ok (contEnc c) := by
  rw [contEnc, ← finish_seq hn hs]
  refine marshal_struct_ok rfl (by decide) ?_
  exact marshalFields_absent rfl rfl <| marshalFields_absent rfl rfl <| marshalFields_absent rfl rfl <|
    marshalFields_absent rfl rfl <|
    marshalFields_present rfl rfl (marshal_int c.total rfl) <| marshalFields_present rfl rfl (marshal_int c.up rfl) <|
    marshalFields_present rfl rfl (marshal_int c.down rfl) <| marshalFields_present rfl rfl (marshal_int c.ssu rfl) <|
    marshalFields_absent rfl rfl <| marshalFields_present rfl rfl (marshal_int c.lsn rfl) <|
    marshalFields_absent rfl rfl <| marshalFields_absent rfl rfl <| marshalFields_absent rfl rfl <|
    marshalFields_absent rfl rfl <| marshalFields_absent rfl rfl <| marshalFields_absent rfl rfl <| marshalFields_nil

theorem containers_eq : ∀ cs, marshalElems Gen.T_UsedUnitContainer p (containerVals cs) = .ok (contsEnc cs)
  | [] => marshalElems_nil
  | c :: cs => marshalElems_cons_ok (container_eq hn hs c) (containers_eq cs)

theorem usage_eq (u : RecUsage) : marshal Gen.T_MultipleUnitUsage p (usageVal u) = .ok (usageEnc u) := by
  rw [usageEnc, ← finish_seq hn hs]
  refine marshal_struct_ok rfl (by decide) ?_
  exact marshalFields_present rfl rfl (marshal_int u.rg rfl) <|
    marshalFields_present rfl rfl (marshal_list_ok rfl (containers_eq rfl rfl u.cs)) <|
    marshalFields_present rfl rfl (marshal_str u.upf rfl) <| marshalFields_absent rfl rfl <| marshalFields_nil

theorem usages_eq : ∀ us, marshalElems Gen.T_MultipleUnitUsage p (usageVals us) = .ok (usagesEnc us)
  | [] => marshalElems_nil
  | u :: us => marshalElems_cons_ok (usage_eq hn hs u) (usages_eq us)

end

def usageListEnc (emptyList : Bool) (us : List RecUsage) : Bytes :=
  match us with
  | [] => if emptyList then tlv 2 true 5 [] else []
  | _ => tlv 2 true 5 (usagesEnc us)

def optF (cls : Nat) (k : Nat) : Option Bytes → Bytes
  | some b => tlv cls false k b
  | none => []

/-- a text IP address: the CHOICE under context tag k, the IA5String alternative under tag j -/
def ipEnc (k j : Nat) : Option Bytes → Bytes
  | some a => tlv 2 true k (tlv 2 false j a)
  | none => []

def nfiEnc (e : RecEnv) (r : Record) : Bytes :=
  tlv 2 true 3 (tlv 2 false 0 (intBytes e.functionality) ++ (optF 2 1 r.nf ++ (ipEnc 2 2 e.v4 ++ (optF 2 3 e.plmn ++
    (ipEnc 4 3 e.v6 ++ (ipEnc 5 1 e.fqdn ++ []))))))

def pduEnc : Option Pdu → Bytes
  | some d => tlv 2 true 13 (intF 0 d.chargingId ++ (intF 6 d.sessionId ++
      (tlv 2 true 7 (intF 0 d.sst ++ (tlv 2 false 1 d.sd ++ [])) ++ (tlv 2 false 13 d.dnn ++ []))))
  | none => []

def regEnc (b : Bool) : Bytes := if b then tlv 2 true 19 (tlv 2 false 0 (intBytes 0) ++ []) else []

theorem finish_implicit {p : Params} {k : Nat} (hn : p.tagNumber = some k) (he : p.explicit = false) (c : Bool)
    (tag : Nat) (content : Bytes) : finish p c tag content = tlv 2 c k content := by
  simp [finish, hn, he]

section
variable {t : Ty} {p : Params} {k : Nat} (hn : p.tagNumber = some k) (he : p.explicit = false)
include hn he

theorem optBytes_eq (h : underlying t = .octets) : ∀ o, marshalOpt t p (optBytes o) = .ok (optF 2 k o)
  | none => rfl
  | some b => (marshal_octets b h).trans (by rw [finish_implicit hn he]; rfl)

theorem optStr_eq {d : Nat} (h : underlying t = .str d) :
    ∀ o, marshalOpt t p (optStr o) = .ok (optF 2 k o)
  | none => rfl
  | some b => (marshal_str b h).trans (by rw [finish_implicit hn he]; rfl)

end

theorem ipText_eq {p : Params} {k : Nat} (hn : p.tagNumber = some k) (ho : p.openType = false) {present : Int}
    (hp : present = 3 ∨ present = 4) :
    ∀ o, marshalOpt (.ptr Gen.T_IPAddress) p (ipTextVal present o) = .ok (ipEnc k (present.toNat - 1) o)
  | none => rfl
  | some a => by
    rcases hp with rfl | rfl <;> exact marshal_choice_ok rfl hn ho (by decide) rfl rfl (marshal_str a rfl)

theorem fqdn_eq {p : Params} {k : Nat} (hn : p.tagNumber = some k) (ho : p.openType = false) :
    ∀ o, marshalOpt (.ptr Gen.T_NodeAddress) p (fqdnVal o) = .ok (ipEnc k 1 o)
  | none => rfl
  | some a => marshal_choice_ok rfl hn ho (by decide) rfl rfl (marshal_str a rfl)

theorem nfi_eq (e : RecEnv) (r : Record) :
    marshal Gen.T_NetworkFunctionInformation ⟨false, some 3, false, false, false, 0⟩ (nfiVal e r) = .ok (nfiEnc e r) :=
  marshal_struct_ok rfl (by decide) <|
    marshalFields_present rfl rfl (marshal_enum e.functionality rfl) <|
    marshalFields_opt rfl rfl rfl (optStr_eq rfl rfl rfl r.nf) <|
    marshalFields_opt rfl rfl rfl (ipText_eq rfl rfl (.inl rfl) e.v4) <|
    marshalFields_opt rfl rfl rfl (optBytes_eq rfl rfl rfl e.plmn) <|
    marshalFields_opt rfl rfl rfl (ipText_eq rfl rfl (.inr rfl) e.v6) <|
    marshalFields_opt rfl rfl rfl (fqdn_eq rfl rfl e.fqdn) <| marshalFields_nil

theorem pdu_eq : ∀ o, marshalOpt (.ptr Gen.T_PDUSessionChargingInformation) ⟨true, some 13, false, false, false, 0⟩ (pduVal o) =
    .ok (pduEnc o)
  | none => rfl
  | some d => by
    refine marshal_struct_ok rfl (by decide) ?_
    refine marshalFields_present rfl rfl (marshal_int d.chargingId rfl) ?_
    iterate 5 refine marshalFields_absent rfl rfl ?_
    refine marshalFields_present rfl rfl (marshal_int d.sessionId rfl) ?_
    refine marshalFields_present rfl rfl (marshal_struct_ok rfl (by decide) <|
      marshalFields_present rfl rfl (marshal_int d.sst rfl) <|
      marshalFields_present rfl rfl (marshal_octets d.sd rfl) <| marshalFields_nil) ?_
    iterate 5 refine marshalFields_absent rfl rfl ?_
    refine marshalFields_present rfl rfl (marshal_str d.dnn rfl) ?_
    iterate 23 refine marshalFields_absent rfl rfl ?_
    exact marshalFields_nil

theorem reg_eq : ∀ b, marshalOpt (.ptr Gen.T_RegistrationChargingInformation) ⟨true, some 19, false, false, false, 0⟩ (regVal b) =
    .ok (regEnc b)
  | false => rfl
  | true => by
    refine marshal_struct_ok rfl (by decide) ?_
    refine marshalFields_present rfl rfl (marshal_enum 0 rfl) ?_
    iterate 22 refine marshalFields_absent rfl rfl ?_
    exact marshalFields_nil

theorem usageList_eq : ∀ el us, marshalOpt (.slice Gen.T_MultipleUnitUsage) ⟨true, some 5, false, false, false, 0⟩
    (usageListVal el us) = .ok (usageListEnc el us)
  | false, [] => rfl
  | true, [] => marshal_list_ok rfl (marshalElems_nil)
  | _, u :: us => marshal_list_ok rfl (usages_eq rfl rfl (u :: us))

theorem rsn_eq : ∀ o : Option Nat, marshalOpt (.ptr (.int 64)) ⟨true, some 8, false, false, false, 0⟩ (rsnVal o) =
    .ok (match o with | some n => intF 8 n | none => [])
  | none => rfl
  | some n => marshal_int (n : Int) rfl

/-- the members of cdrType.ChargingRecord that OpenCDR / UpdateCDR / CloseCDR fill, in tag order -/
def recordContent (e : RecEnv) (r : Record) : Bytes :=
  intF 0 200 ++ (tlv 2 false 1 e.nfId ++
  (tlv 2 true 2 (tlv 2 false 0 (intBytes 1) ++ (tlv 2 false 1 r.subData ++ [])) ++
  (nfiEnc e r ++
  (usageListEnc e.emptyList r.usage ++
  (tlv 2 false 6 e.openTime ++ (intF 7 0 ++
  ((match r.rsn with | some n => intF 8 n | none => []) ++
  (intF 9 r.cause ++ (intF 11 r.lsn ++
  (pduEnc e.pdu ++
  (optF 2 16 r.sid ++ (optF 2 17 e.svcSpec ++ (regEnc e.registration ++ (intF 27 r.cid ++ []))))))))))))))

/-- the record as written to the file: `[200] IMPLICIT SEQUENCE` (the selected alternative of the CHOICE CHFRecord) -/
def recordEnc (e : RecEnv) (r : Record) : Bytes := tlv 2 true 200 (recordContent e r)

theorem chargingRecord_eq (e : RecEnv) (r : Record) :
    marshal (.ptr Gen.T_ChargingRecord) ⟨false, some 200, false, false, false, 0⟩ (chargingRecordVal e r) = .ok (recordEnc e r) := by
  refine marshal_struct_ok rfl (by decide) ?_
  refine marshalFields_present rfl rfl (marshal_int 200 rfl) ?_
  refine marshalFields_present rfl rfl (marshal_str e.nfId rfl) ?_
  refine marshalFields_present rfl rfl (marshal_struct_ok rfl (by decide) <|
    marshalFields_present rfl rfl (marshal_enum 1 rfl) <|
    marshalFields_present rfl rfl (marshal_str r.subData rfl) <| marshalFields_nil) ?_
  refine marshalFields_present rfl rfl (nfi_eq e r) ?_
  refine marshalFields_absent rfl rfl ?_
  refine marshalFields_opt rfl rfl rfl (usageList_eq e.emptyList r.usage) ?_
  refine marshalFields_present rfl rfl (marshal_octets e.openTime rfl) ?_
  refine marshalFields_present rfl rfl (marshal_int 0 rfl) ?_
  refine marshalFields_opt rfl rfl rfl (rsn_eq r.rsn) ?_
  refine marshalFields_present rfl rfl (marshal_int r.cause rfl) ?_
  refine marshalFields_absent rfl rfl ?_
  refine marshalFields_present rfl rfl (marshal_int r.lsn rfl) ?_
  refine marshalFields_absent rfl rfl ?_
  refine marshalFields_opt rfl rfl rfl (pdu_eq e.pdu) ?_
  iterate 2 refine marshalFields_absent rfl rfl ?_
  refine marshalFields_opt rfl rfl rfl (optBytes_eq rfl rfl rfl r.sid) ?_
  refine marshalFields_opt rfl rfl rfl (optBytes_eq rfl rfl rfl e.svcSpec) ?_
  refine marshalFields_absent rfl rfl ?_
  refine marshalFields_opt rfl rfl rfl (reg_eq e.registration) ?_
  iterate 7 refine marshalFields_absent rfl rfl ?_
  exact marshalFields_present rfl rfl (marshal_int r.cid rfl) (marshalFields_nil)

/-- marshalling the record value on the regenerated schema type succeeds and yields the closed form -/
theorem recordBytes_eq (e : RecEnv) (r : Record) : recordBytes e r = .ok (recordEnc e r) :=
  marshal_choice_ok (t := .ptr (.ptr Gen.T_CHFRecord)) rfl rfl rfl (by decide) rfl rfl (chargingRecord_eq e r)

/-! ### sizes -/

theorem tlv_size_low (cls : Nat) (c : Bool) (tag : Nat) (content : Bytes) (h : tag ≤ 30) :
    (tlv cls c tag content).length = 1 + (lenPart content.length).length + content.length := by
  rw [tlv_length, header_split, List.length_append, tagPart, if_pos h]; rfl

theorem usagesEnc_append (a b : List RecUsage) : usagesEnc (a ++ b) = usagesEnc a ++ usagesEnc b := by
  induction a with
  | nil => rfl
  | cons u r ih => simp [usagesEnc, ih]

theorem chgBytesR_eq (us : List RecUsage) : chgBytesR us = .ok (tlv 0 true 16 (usagesEnc us)) :=
  marshal_list_ok (t := .ptr (.slice Gen.T_MultipleUnitUsage)) rfl (usages_eq rfl rfl us)

theorem usageListEnc_of_ne_nil (el : Bool) {us : List RecUsage} (h : us ≠ []) :
    usageListEnc el us = tlv 2 true 5 (usagesEnc us) := by
  cases us with
  | nil => exact absurd rfl h
  | cons => rfl

/-- within 16 bits, usage appended to the list member of a record adds at most its own size as a SEQUENCE OF
    (which is what the guard measures): the list's length field widens by no more than the second header takes -/
theorem usageListEnc_append_length (el : Bool) (a b : List RecUsage) (hb : b ≠ [])
    (h : (usageListEnc el a).length + (tlv 0 true 16 (usagesEnc b)).length ≤ 65535) :
    (usageListEnc el (a ++ b)).length ≤ (usageListEnc el a).length + (tlv 0 true 16 (usagesEnc b)).length := by
  rw [usageListEnc_of_ne_nil el (fun h => hb (List.append_eq_nil_iff.mp h).2), usagesEnc_append,
    tlv_size_low 2 true 5 _ (by decide), List.length_append]
  rw [tlv_size_low 0 true 16 _ (by decide)] at *
  have := lenPart_length_pos (usagesEnc b).length
  cases a with
  | nil => simp only [usagesEnc, List.length_nil, Nat.zero_add]; omega
  | cons u a =>
    rw [usageListEnc_of_ne_nil el (List.cons_ne_nil u a), tlv_size_low 2 true 5 _ (by decide)] at *
    have := lenPart_length_pos (usagesEnc (u :: a)).length
    have := @lenPart_length_le_three ((usagesEnc (u :: a)).length + (usagesEnc b).length)
    omega

/-- length of the members other than the usage list (a subtraction, because with `emptyList` an empty list is still written) -/
def fixedLen (e : RecEnv) (r : Record) : Nat :=
  (recordContent e { r with usage := [] }).length - (usageListEnc e.emptyList []).length

theorem recordContent_length (e : RecEnv) (r : Record) :
    (recordContent e r).length = fixedLen e r + (usageListEnc e.emptyList r.usage).length := by
  unfold fixedLen recordContent nfiEnc
  simp only [List.length_append]
  omega

/-- 3: the identifier octets of the record's tag [200], one leading octet and two for the tag number -/
theorem recordLen (e : RecEnv) (r : Record) :
    lenOf (recordBytes e r) = 3 + (lenPart (recordContent e r).length).length + (recordContent e r).length := by
  rw [recordBytes_eq, lenOf, recordEnc, tlv_length, header_split, List.length_append]; rfl

theorem fixedLen_append (e : RecEnv) (r : Record) (us : List Usage) : fixedLen e (appendUsage r us) = fixedLen e r := rfl

/-- the guard of the update path on a request that carries usage: no new record exactly while the two sizes it adds up
    stay within 65535 -/
theorem berGuard_eq_false {e : RecEnv} {r : Record} {us : List Usage} (hne : us ≠ []) :
    berGuard e r us = false ↔ lenOf (recordBytes e r) + lenOf (chgBytes us) ≤ 65535 := by
  have hne' : (toRecUsage us).isEmpty = false := by cases us with
    | nil => exact absurd rfl hne
    | cons a b => rfl
  simp only [berGuard, berGuardR, CdrDump.startsNewRecord, hne', Bool.false_eq_true, if_false, decide_eq_false_iff_not,
    chgBytes, Nat.not_lt, gt_iff_lt]

/-- Size of a record after usage is appended, against what the guard of ChargingDataUpdate adds up:
    the new record is at most 2 octets longer than `len(record) + len(usage)` whenever that sum is within
    the 16-bit limit: the record's own length field may widen from one octet to three; what the list member's length
    field widens by is covered by the SEQUENCE OF header the guard counted with the usage (`usageListEnc_append_length`) -/
theorem append_size_bound (e : RecEnv) (r : Record) (us : List Usage) (hne : us ≠ [])
    (hsum : lenOf (recordBytes e r) + lenOf (chgBytes us) ≤ 65535) :
    lenOf (recordBytes e (appendUsage r us)) ≤ lenOf (recordBytes e r) + lenOf (chgBytes us) + 2 := by
  have hne' : toRecUsage us ≠ [] := fun h => hne (List.map_eq_nil_iff.mp h)
  rw [recordLen, recordLen, chgBytes, chgBytesR_eq, lenOf, recordContent_length e (appendUsage r us),
    recordContent_length e r, fixedLen_append] at *
  have hl := usageListEnc_append_length e.emptyList r.usage (toRecUsage us) hne' (by omega)
  -- the record's own length field has 1 to 3 octets before and after
  have := lenPart_length_pos (fixedLen e r + (usageListEnc e.emptyList r.usage).length)
  have := @lenPart_length_le_three (fixedLen e r + (usageListEnc e.emptyList (appendUsage r us).usage).length)
  simp only [appendUsage] at *
  omega

/-! ### the bound is attained: a fresh record and a usage whose sizes add up to exactly 65535 -/

def r0 : Record := { sid := none, subData := [], cid := 0, nf := none, lsn := 0, rsn := none, cause := 0, usage := [] }
def e0 : RecEnv := { nfId := [], openTime := [], functionality := 0 }
def bigUsage (L : Nat) : Usage := { rg := 0, req := none, upf := List.replicate L 0, cs := [] }

/-- while every length field in sight has three octets, the fresh record with one usage of `L` UPF-id octets appended
    is two octets longer than what the guard adds up: the record's own length field grows from one octet to three; the
    four header octets of the new list member are the four the guard counted for the SEQUENCE OF it measured -/
theorem guard_off_by_two (L : Nat) (h1 : 256 ≤ L) (h2 : L ≤ 65482) :
    berGuard e0 r0 [bigUsage L] = false ∧
    lenOf (recordBytes e0 r0) + lenOf (chgBytes [bigUsage L]) = L + 53 ∧
    lenOf (recordBytes e0 (appendUsage r0 [bigUsage L])) = L + 55 := by
  have hF : fixedLen e0 r0 = 32 := by decide
  have hN : (usagesEnc (toRecUsage [bigUsage L])).length = L + 13 := by
    simp only [toRecUsage, bigUsage, List.map, usagesEnc, usageEnc, List.append_nil, List.length_append,
      tlv_size_low 0 true 16 _ (by decide), tlv_size_low 2 false 2 _ (by decide), List.length_replicate,
      show (intF 0 0).length = 3 by decide, show (tlv 2 true 1 (contsEnc [])).length = 2 by decide]
    rw [lenPart_length_eq_three h1 (by omega), lenPart_length_eq_three (by omega) (by omega)]; omega
  have hs : lenOf (recordBytes e0 r0) = 36 := by
    rw [recordLen, recordContent_length, hF]; decide
  have hc : lenOf (chgBytes [bigUsage L]) = L + 17 := by
    rw [chgBytes, chgBytesR_eq, lenOf, tlv_size_low 0 true 16 _ (by decide), hN, lenPart_length_eq_three (by omega) (by omega)]; omega
  refine ⟨?_, by omega, ?_⟩
  · exact (berGuard_eq_false (by simp)).2 (by rw [hs, hc]; omega)
  · rw [recordLen, recordContent_length, fixedLen_append, hF,
      show (appendUsage r0 [bigUsage L]).usage = toRecUsage [bigUsage L] from rfl,
      usageListEnc_of_ne_nil _ (by simp [toRecUsage]), tlv_size_low 2 true 5 _ (by decide), hN,
      lenPart_length_eq_three (n := L + 13) (by omega) (by omega), lenPart_length_eq_three (by omega) (by omega)]
    omega

/-- the +2 of `append_size_bound` is attained: record 36 octets + usage 65499 octets = 65535, so the guard does not
    start a new record, and the record written has 65537 octets -/
theorem guard_tight : ∃ L,
    berGuard e0 r0 [bigUsage L] = false ∧
    lenOf (recordBytes e0 r0) + lenOf (chgBytes [bigUsage L]) = 65535 ∧
    lenOf (recordBytes e0 (appendUsage r0 [bigUsage L])) = 65537 := ⟨65482, guard_off_by_two 65482 (by decide) (by decide)⟩

theorem isNil_nil : isNilVal Val.nil = true := rfl
theorem isNil_int (i : Int) : isNilVal (Val.int i) = false := rfl
theorem isNil_bytes (b : Bytes) : isNilVal (Val.bytes b) = false := rfl
theorem isNil_str (b : Bytes) : isNilVal (Val.str b) = false := rfl
theorem isNil_list (v : Vals) : isNilVal (Val.list v) = false := rfl
theorem isNil_struct (v : Vals) : isNilVal (Val.struct v) = false := rfl
theorem pduVal_nil : isNilVal (pduVal none) = true := rfl
theorem pduVal_some (d : Pdu) : isNilVal (pduVal (some d)) = false := rfl
theorem regVal_false : isNilVal (regVal false) = true := rfl
theorem regVal_true : isNilVal (regVal true) = false := rfl

end Chf.RecordBer
