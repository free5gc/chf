import ChfVerif.Model.Charging
import ChfVerif.Spec.ChargingSpec
/-
  The list maps of the charging model (subscriber contexts by SUPI, rating groups, session map, grant ledgers):
  one get-after-put law per map, membership after put, keys.
-/
namespace Chf.Charging
open Chf

theorem findUe_putUe (ues : List Ue) (u : Ue) (supi : Bytes) :
    findUe (putUe ues u) supi = if supi = u.supi then some u else findUe ues supi := by
  induction ues with
  | nil => simp [putUe, findUe, eq_comm]
  | cons x r ih =>
    by_cases hs : u.supi = supi <;> by_cases hx : x.supi = u.supi <;> simp_all [putUe, findUe, eq_comm (a := supi)]

theorem findUe_supi {ues : List Ue} {supi : Bytes} {u : Ue} (h : findUe ues supi = some u) : u.supi = supi := by
  induction ues with
  | nil => cases h
  | cons x r ih => by_cases hx : x.supi = supi <;> simp_all [findUe]

theorem mem_of_findUe {ues : List Ue} {supi : Bytes} {u : Ue} (h : findUe ues supi = some u) : u ∈ ues := by
  induction ues with
  | nil => cases h
  | cons x r ih => by_cases hx : x.supi = supi <;> simp_all [findUe]

theorem mem_putUe {ues : List Ue} {u x : Ue} (h : x ∈ putUe ues u) : x = u ∨ x ∈ ues := by
  induction ues with
  | nil => simpa [putUe] using h
  | cons a r ih =>
    unfold putUe at h
    split at h
    · exact (List.mem_cons.mp h).imp id (List.mem_cons_of_mem _)
    · rcases List.mem_cons.mp h with rfl | h
      · exact Or.inr List.mem_cons_self
      · exact (ih h).imp id (List.mem_cons_of_mem _)

theorem getRg_setRg (g : List (Int × RgState)) (rg rg' : Int) (v : RgState) :
    getRg (setRg g rg v) rg' = if rg' = rg then some v else getRg g rg' := by
  induction g with
  | nil => simp [setRg, getRg, eq_comm]
  | cons a r ih => by_cases hs : rg = rg' <;> by_cases hk : a.1 = rg <;> simp_all [setRg, getRg, eq_comm (a := rg')]

theorem resv_setRg (g : List (Int × RgState)) (rg rg' : Int) (v : RgState) :
    resv (setRg g rg v) rg' = if rg' = rg then v.reserved else resv g rg' := by
  unfold resv; rw [getRg_setRg]; by_cases h : rg' = rg <;> simp [h]

theorem lookupSid_setSid (m : List (Bytes × Nat)) (sid k : Bytes) (v : Nat) :
    lookupSid (setSid m sid v) k = if k = sid then some v else lookupSid m k := by
  induction m with
  | nil => simp [setSid, lookupSid, eq_comm]
  | cons a r ih => by_cases hs : sid = k <;> by_cases hk : a.1 = sid <;> simp_all [setSid, lookupSid, eq_comm (a := k)]

section
variable {m : List (Bytes × Nat)} {sid k : Bytes} {v i : Nat} {p : Bytes × Nat}

theorem mem_of_lookupSid (h : lookupSid m k = some i) : (k, i) ∈ m := by
  induction m with
  | nil => cases h
  | cons a r ih =>
    unfold lookupSid at h
    split at h
    · rename_i hk; cases h; exact hk ▸ List.mem_cons_self
    · exact List.mem_cons_of_mem _ (ih h)

theorem mem_setSid_ne (hnd : (m.map (·.1)).Nodup) (h : p ∈ setSid m sid v) : p = (sid, v) ∨ (p ∈ m ∧ p.1 ≠ sid) := by
  induction m with
  | nil => exact .inl (by simpa [setSid] using h)
  | cons a t ih =>
    obtain ⟨k, x⟩ := a
    simp only [List.map_cons, List.nodup_cons] at hnd
    unfold setSid at h
    split at h
    · -- the head is replaced, and the tail has no entry under `sid`
      rename_i hk
      rcases List.mem_cons.mp h with h | h
      · exact .inl (hk ▸ h)
      · exact .inr ⟨List.mem_cons_of_mem _ h, fun e => hnd.1 (hk ▸ e ▸ List.mem_map_of_mem h)⟩
    · rcases List.mem_cons.mp h with rfl | h
      · exact .inr ⟨List.mem_cons_self, by assumption⟩
      · exact (ih hnd.2 h).imp_right fun ⟨h', hne⟩ => ⟨List.mem_cons_of_mem _ h', hne⟩

theorem mem_removeSid (h : p ∈ removeSid m sid) : p ∈ m := by
  induction m with
  | nil => cases h
  | cons a r ih =>
    unfold removeSid at h
    split at h
    · exact List.mem_cons_of_mem _ h
    · rcases List.mem_cons.mp h with rfl | h
      · exact List.mem_cons_self
      · exact List.mem_cons_of_mem _ (ih h)

theorem keys_setSid (m : List (Bytes × Nat)) (sid : Bytes) (v : Nat) :
    (setSid m sid v).map (·.1) = if sid ∈ m.map (·.1) then m.map (·.1) else m.map (·.1) ++ [sid] := by
  induction m with
  | nil => rfl
  | cons a t ih =>
    unfold setSid
    by_cases hk : a.1 = sid
    · simp [hk]
    · have : ¬ sid = a.1 := fun e => hk e.symm
      simp only [hk, if_false, List.map_cons, ih, List.mem_cons, this, false_or]
      split <;> rfl

theorem mem_keys_setSid : k ∈ (setSid m sid v).map (·.1) ↔ k ∈ m.map (·.1) ∨ k = sid := by
  rw [keys_setSid]
  split
  · rename_i h; exact ⟨.inl, fun h' => h'.elim id (· ▸ h)⟩
  · rw [List.mem_append, List.mem_singleton]

theorem keys_removeSid (m : List (Bytes × Nat)) (sid : Bytes) : (removeSid m sid).map (·.1) = (m.map (·.1)).erase sid := by
  induction m with
  | nil => rfl
  | cons a t ih =>
    unfold removeSid
    by_cases hk : a.1 = sid
    · simp [hk]
    · simp [hk, ih]

theorem lookupSid_none_of_not_key (h : sid ∉ m.map (·.1)) : lookupSid m sid = none := by
  cases hl : lookupSid m sid with
  | none => rfl
  | some i => exact absurd (List.mem_map_of_mem (mem_of_lookupSid hl)) h

theorem nodup_setSid (sid : Bytes) (v : Nat) (hnd : (m.map (·.1)).Nodup) : ((setSid m sid v).map (·.1)).Nodup := by
  rw [keys_setSid]
  split
  · exact hnd
  · rename_i hk
    exact List.nodup_append.mpr ⟨hnd, by simp, fun a ha b hb e => hk (by rw [← List.mem_singleton.mp hb, ← e]; exact ha)⟩

theorem nodup_removeSid (sid : Bytes) (hnd : (m.map (·.1)).Nodup) : ((removeSid m sid).map (·.1)).Nodup := by
  rw [keys_removeSid]; exact hnd.erase _

end

theorem lastGrant_setGrant (L : Ledger) (rg rg' : Int) (g : Nat) :
    lastGrant (setGrant L rg g) rg' = if rg' = rg then g else lastGrant L rg' := by
  induction L with
  | nil => simp [setGrant, lastGrant, eq_comm]
  | cons a r ih => by_cases hs : rg = rg' <;> by_cases hk : a.1 = rg <;> simp_all [setGrant, lastGrant, eq_comm (a := rg')]

theorem ledgerOf_setLedger (Ls : Ledgers) (supi supi' : Bytes) (l : Ledger) :
    ledgerOf (setLedger Ls supi l) supi' = if supi' = supi then l else ledgerOf Ls supi' := by
  induction Ls with
  | nil => simp [setLedger, ledgerOf, eq_comm]
  | cons a r ih =>
    by_cases hs : supi = supi' <;> by_cases hk : a.1 = supi <;> simp_all [setLedger, ledgerOf, eq_comm (a := supi')]

end Chf.Charging
