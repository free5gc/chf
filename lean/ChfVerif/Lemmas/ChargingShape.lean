import ChfVerif.Lemmas.ChargingMaps
/-
  What one operation of the charging model does, said once: it leaves the subscriber contexts alone (`Idle`) or
  replaces exactly one of them (`Writes`), and then session map and records of that context change in one of six
  ways (`RecStep`).  Every property of histories (session references, notification address, records, money frame)
  is derived from `step_shape` without unfolding `step` again: what the six `RecStep`s preserve, every operation
  preserves for every context (`recs_invariant`), and `run_invariant` lifts step invariants to histories.
-/
namespace Chf.Charging
open Chf

theorem run_invariant {Inv : State → Prop} (guard : SplitGuard)
    (hstep : ∀ s op, Inv s → Inv (step guard s op).1) (ops : List Op) : ∀ s, Inv s → Inv (run guard s ops) := by
  induction ops with
  | nil => intro s h; exact h
  | cons op r ih => intro s h; exact ih _ (hstep s op h)

/-- the subscriber context a create works on: the existing one or a fresh one -/
def ueOr (s : State) (r : Req) : Ue :=
  match findUe s.ues r.supi with
  | some u => u
  | none => { supi := r.supi }

/-- context of a subscriber; the fresh one `NewCHFUe` would make if there is none.  `ueOr s r` is `ueOf s r.supi`, by `rfl`:
    the statements about creates are written with `ueOr`, the lemmas with `ueOf` -/
def ueOf (s : State) (supi : Bytes) : Ue :=
  match findUe s.ues supi with
  | some u => u
  | none => { supi := supi }

theorem ueOf_supi (s : State) (supi : Bytes) : (ueOf s supi).supi = supi := by
  unfold ueOf; cases hf : findUe s.ues supi with
  | none => rfl
  | some u => exact findUe_supi hf

theorem ueOf_of_find {s : State} {supi : Bytes} {u : Ue} (h : findUe s.ues supi = some u) : ueOf s supi = u := by
  unfold ueOf; rw [h]

theorem ueOf_of_ues {P : Ue → Prop} {s : State} (h : ∀ v ∈ s.ues, P v) (fresh : ∀ supi, P { supi := supi }) (supi : Bytes) :
    P (ueOf s supi) := by
  unfold ueOf
  cases hf : findUe s.ues supi with
  | none => exact fresh _
  | some v => exact h v (mem_of_findUe hf)

theorem groupsOf_eq (s : State) (supi : Bytes) : groupsOf s supi = (ueOf s supi).groups := by
  unfold groupsOf ueOf; cases findUe s.ues supi <;> rfl

/-- what one operation adds to the recorded usage of subscriber `supi` -/
def contributed (guard : SplitGuard) (s : State) (op : Op) (supi : Bytes) : List RecUsage :=
  match op with
  | .create r => if (create s r).2.status = 201 ∧ r.supi = supi then toRecUsage r.usages else []
  | .update sid r => if (update guard s sid r).2.status = 200 ∧ r.supi = supi then toRecUsage r.usages else []
  | .release sid r => if (release s sid r).2.status = 204 ∧ r.supi = supi then toRecUsage r.usages else []
  | _ => []

/-- what an operation contributes to session `sid` of `supi`: the usage of an accepted create that returned `sid`,
    of an accepted update or release addressed to `sid` -/
def contribSess (guard : SplitGuard) (s : State) (op : Op) (supi sid : Bytes) : List RecUsage :=
  match op with
  | .create r => if (create s r).2.status = 201 ∧ r.supi = supi ∧ (create s r).2.loc = some sid then toRecUsage r.usages else []
  | .update k r => if (update guard s k r).2.status = 200 ∧ r.supi = supi ∧ k = sid then toRecUsage r.usages else []
  | .release k r => if (release s k r).2.status = 204 ∧ r.supi = supi ∧ k = sid then toRecUsage r.usages else []
  | _ => []

def subject : Op → Option Bytes
  | .create r | .update _ r | .release _ r => some r.supi
  | .recharge info =>
    match splitUnderscore info with
    | [ueId, _] => some ueId
    | _ => none
  | .credit .. => none

/-- The ways an operation changes session map `cdr` and records `rs` of the context it writes, with the session
    counter `n`: result map, result records, result counter, the reference concerned and the usage entries written. -/
inductive RecStep (n : Nat) (cdr : List (Bytes × Nat)) (rs : List Record) :
    List (Bytes × Nat) → List Record → Nat → Bytes → List RecUsage → Prop
  /-- recharge; a create refused by OpenCDR (which may have used up a number); also what a context that is not written
      sees of an operation (`recs_invariant`) -/
  | keep (n' : Nat) (h : n ≤ n') : RecStep n cdr rs cdr rs n' [] []
  /-- one-time event: a record without reference, the session map is not touched -/
  | event (rec : Record) (hs : rec.sid = none) : RecStep n cdr rs cdr (rs ++ [rec]) n [] rec.usage
  /-- session create: a record under the next reference -/
  | opened (supi nf : Bytes) (rec : Record) (hs : rec.sid = some (sessionId supi nf n)) :
      RecStep n cdr rs (setSid cdr (sessionId supi nf n) rs.length) (rs ++ [rec]) (n + 1) (sessionId supi nf n) rec.usage
  /-- update: usage appended to the designated record -/
  | append (k : Bytes) (idx : Nat) (rec : Record) (x : List RecUsage) (hl : lookupSid cdr k = some idx)
      (hs : rec.sid = (rs.getD idx default).sid) (hx : rec.usage = (rs.getD idx default).usage ++ x) :
      RecStep n cdr rs cdr (rs.set idx rec) n k x
  /-- update with record split: the session continues in a record appended at the end -/
  | split (k : Bytes) (idx : Nat) (rec : Record) (hl : lookupSid cdr k = some idx)
      (hs : rec.sid = (rs.getD idx default).sid) :
      RecStep n cdr rs (setSid cdr k rs.length) (rs ++ [rec]) n k rec.usage
  /-- release: usage appended to the designated record, the reference removed -/
  | close (k : Bytes) (idx : Nat) (rec : Record) (x : List RecUsage) (hl : lookupSid cdr k = some idx)
      (hs : rec.sid = (rs.getD idx default).sid) (hx : rec.usage = (rs.getD idx default).usage ++ x) :
      RecStep n cdr rs (removeSid cdr k) (rs.set idx rec) n k x

/-- the operation writes no subscriber context -/
structure Idle (guard : SplitGuard) (s : State) (op : Op) : Prop where
  /-- only the account store can change -/
  same : (step guard s op).1 = { s with accts := (step guard s op).1.accts }
  /-- a request answered 400 or 404, which leaves the accounts as well - or an external credit -/
  answer : (((step guard s op).2.status = 400 ∨ (step guard s op).2.status = 404) ∧ (step guard s op).1.accts = s.accts) ∨
           ∃ a b c, op = .credit a b c
  charged : chargedUsages s op = none
  contrib : ∀ supi, contributed guard s op supi = []
  contribSess : ∀ supi sid, contribSess guard s op supi sid = []

/-- the operation replaces the context of subscriber `supi` (`ueOf s supi`: a fresh one if the subscriber was unknown) by
    `u'`; `key` is the session reference concerned and `x` the usage entries it records (both empty where there is none),
    as in `RecStep` -/
structure Writes (guard : SplitGuard) (s : State) (op : Op) (supi : Bytes) (u' : Ue) (key : Bytes) (x : List RecUsage) :
    Prop where
  /-- besides the contexts only the account store and the two counters can change -/
  state : (step guard s op).1 =
    { s with accts := (step guard s op).1.accts, ues := putUe s.ues u', localSeq := (step guard s op).1.localSeq,
             sessionSeq := (step guard s op).1.sessionSeq }
  /-- answered 201, 200 or 204 - or it is a create that OpenCDR refused after the context was stored (`create_bad`) -/
  accepted : ((step guard s op).2.status = 201 ∨ (step guard s op).2.status = 200 ∨ (step guard s op).2.status = 204) ∨
    ∃ r, op = .create r ∧ r.bad = true ∧ u' = ueOf s supi ∧
      step guard s op = ({ s with ues := putUe s.ues (ueOf s supi),
                                  sessionSeq := if r.one then s.sessionSeq else s.sessionSeq + 1 }, { status := 400 })
  subj : subject op = some supi
  owner : u'.supi = supi
  notify : (ueOf s supi).notifyUri = true → u'.notifyUri = true
  recs : RecStep s.sessionSeq (ueOf s supi).cdr (ueOf s supi).records u'.cdr u'.records (step guard s op).1.sessionSeq key x
  /-- credit control ran on the subscriber's rating groups, or no reservation and no account moved -/
  money : (∃ trigs us, chargedUsages s op = some (supi, trigs, (ueOf s supi).groups, us) ∧
              u'.groups = (creditControl (seenTariffs s) supi trigs (seenAccts s) (ueOf s supi).groups us).2.1 ∧
              (step guard s op).1.accts =
                acctsAfter s (creditControl (seenTariffs s) supi trigs (seenAccts s) (ueOf s supi).groups us).1) ∨
          (chargedUsages s op = none ∧ (∀ rg, resv u'.groups rg = resv (ueOf s supi).groups rg) ∧
            (step guard s op).1.accts = s.accts)
  contrib : ∀ supi', contributed guard s op supi' = if supi = supi' then x else []
  contribSess : ∀ supi' sid, contribSess guard s op supi' sid = if supi = supi' ∧ key = sid then x else []

theorem set_append_last {α : Type} (l : List α) (a b : α) : (l ++ [a]).set l.length b = l ++ [b] := by
  induction l with
  | nil => rfl
  | cons x t ih => simp [ih]

theorem getD_append_last {α : Type} (l : List α) (a d : α) : (l ++ [a]).getD l.length d = a := by
  simp [List.getD_eq_getElem?_getD]

theorem sessionId_ne_nil (supi nf : Bytes) (n : Nat) : sessionId supi nf n ≠ [] := by
  unfold sessionId; simp

theorem supiAccepted_iff (s : Bytes) : supiAccepted s = true ↔
    hasImsiPrefix s = true ∧ 47 ∉ s ∧ 0 ∉ s ∧ s.length + 4 ≤ 255 ∧ s.any isControl = false := by
  simp only [supiAccepted, Bool.and_eq_true, Bool.not_eq_true', decide_eq_true_eq, and_assoc,
    List.contains_eq_mem, decide_eq_false_iff_not]

theorem create_rej (s : State) (r : Req) (h : r.nf = none ∨ supiAccepted r.supi = false) :
    create s r = (s, { status := 400 }) := by
  unfold create
  rcases h with h | h
  · simp [h]
  · cases hnf : r.nf with
    | none => rfl
    | some nf => simp [h]

theorem create_rej_of_supi (guard : SplitGuard) (s : State) {r : Req}
    (h : ¬ (hasImsiPrefix r.supi = true ∧ 47 ∉ r.supi ∧ 0 ∉ r.supi ∧ r.supi.length + 4 ≤ 255 ∧
      r.supi.any isControl = false)) : step guard s (.create r) = (s, { status := 400 }) :=
  create_rej s r (.inr (Bool.eq_false_iff.2 fun ha => h ((supiAccepted_iff _).1 ha)))

/-- a create that OpenCDR refuses (malformed PLMN id, incomplete PDU session information): answered 400; by then the
    subscriber context exists (empty if the subscriber was unknown) and a session-based create has used up a sequence
    number - accounts, reservations, records, session map and notification address are as before -/
theorem create_bad (s : State) (r : Req) (nf : Bytes) (hnf : r.nf = some nf) (hp : supiAccepted r.supi = true)
    (hb : r.bad = true) :
    create s r = ({ s with ues := putUe s.ues (ueOr s r),
                           sessionSeq := if r.one then s.sessionSeq else s.sessionSeq + 1 }, { status := 400 }) := by
  unfold create ueOr
  simp only [hnf, hp, hb, not_true_eq_false, if_false, if_true]
  rfl

/-- an accepted create: a record holding the request's usage is appended; a session create registers it under the
    next reference, a one-time event leaves session map and counter alone -/
theorem create_acc (s : State) (r : Req) (nf : Bytes) (hnf : r.nf = some nf) (hp : supiAccepted r.supi = true)
    (hb : r.bad = false) :
    ∃ u' : Ue,
      create s r = ({ s with ues := putUe s.ues u', localSeq := s.localSeq + 1,
                             sessionSeq := if r.one then s.sessionSeq else s.sessionSeq + 1 },
                    { status := 201, loc := some (if r.one then [] else sessionId r.supi nf s.sessionSeq),
                      seq := some r.seq }) ∧
      u'.supi = r.supi ∧ u'.groups = (ueOr s r).groups ∧ u'.notifyUri = ((ueOr s r).notifyUri || r.uri) ∧
      (u'.cdr = if r.one then (ueOr s r).cdr
                else setSid (ueOr s r).cdr (sessionId r.supi nf s.sessionSeq) (ueOr s r).records.length) ∧
      RecStep s.sessionSeq (ueOr s r).cdr (ueOr s r).records u'.cdr u'.records
        (if r.one then s.sessionSeq else s.sessionSeq + 1) (if r.one then [] else sessionId r.supi nf s.sessionSeq)
        (toRecUsage r.usages) := by
  have hrs : (ueOr s r).supi = r.supi := ueOf_supi s r.supi
  unfold create
  simp only [hnf, hp, hb, not_true_eq_false, if_false, Bool.false_eq_true]
  cases r.one
  · exact ⟨_, rfl, hrs, rfl, rfl, rfl, .opened r.supi nf _ (by simp [appendUsage, sessionId_ne_nil])⟩
  · exact ⟨_, rfl, hrs, rfl, rfl, rfl, .event _ rfl⟩

/-- an accepted update: credit control on the subscriber's rating groups; the usage goes to the designated record or,
    when the size guard says so, to a record started for the session -/
theorem update_acc (guard : SplitGuard) (s : State) (k : Bytes) (r : Req) (ue : Ue) (idx : Nat)
    (hu : findUe s.ues r.supi = some ue) (hl : lookupSid ue.cdr k = some idx) :
    ∃ ue' : Ue,
      update guard s k r =
        ({ s with accts := acctsAfter s (creditControl (seenTariffs s) r.supi r.trigs (seenAccts s) ue.groups r.usages).1,
                  ues := putUe s.ues ue' },
         { status := 200, seq := some r.seq,
           muis := (creditControl (seenTariffs s) r.supi r.trigs (seenAccts s) ue.groups r.usages).2.2 }) ∧
      ue'.supi = ue.supi ∧ ue'.notifyUri = ue.notifyUri ∧
      ue'.groups = (creditControl (seenTariffs s) r.supi r.trigs (seenAccts s) ue.groups r.usages).2.1 ∧
      RecStep s.sessionSeq ue.cdr ue.records ue'.cdr ue'.records s.sessionSeq k (toRecUsage r.usages) := by
  simp only [update, hu, hl]
  by_cases hg : guard (ue.records.getD idx default) r.usages = true
  · simp only [hg, if_true, setRecord, getD_append_last, set_append_last]
    exact ⟨_, rfl, rfl, rfl, rfl, by split <;> exact .split k idx _ hl rfl⟩
  · simp only [hg, Bool.false_eq_true, if_false, setRecord]
    exact ⟨_, rfl, rfl, rfl, rfl, by split <;> exact .append k idx _ _ hl rfl rfl⟩

/-- an accepted release: credit control as for an update; the usage goes to the designated record and the reference is
    removed -/
theorem release_acc (s : State) (k : Bytes) (r : Req) (ue : Ue) (idx : Nat)
    (hu : findUe s.ues r.supi = some ue) (hl : lookupSid ue.cdr k = some idx) :
    ∃ ue' : Ue,
      release s k r =
        ({ s with accts := acctsAfter s (creditControl (seenTariffs s) r.supi r.trigs (seenAccts s) ue.groups r.usages).1,
                  ues := putUe s.ues ue' }, { status := 204 }) ∧
      ue'.supi = ue.supi ∧ ue'.notifyUri = ue.notifyUri ∧
      ue'.groups = (creditControl (seenTariffs s) r.supi r.trigs (seenAccts s) ue.groups r.usages).2.1 ∧
      RecStep s.sessionSeq ue.cdr ue.records ue'.cdr ue'.records s.sessionSeq k (toRecUsage r.usages) := by
  simp only [release, hu, hl]
  exact ⟨_, rfl, rfl, rfl, rfl, .close k idx _ _ hl rfl rfl⟩

/-- the rating groups as a recharge leaves them: `rg` back in reserve mode -/
def recharged (groups : List (Int × RgState)) (rg : Int) : List (Int × RgState) :=
  setRg groups rg { (match getRg groups rg with | some x => x | none => ({} : RgState)) with mode := 1 }

theorem resv_recharged (groups : List (Int × RgState)) (rg rg' : Int) : resv (recharged groups rg) rg' = resv groups rg' := by
  unfold recharged; rw [resv_setRg]
  by_cases h : rg' = rg
  · subst h; unfold resv; cases getRg groups rg' <;> simp
  · simp [h]

theorem recharge_cases (s : State) (info : Bytes) :
    (((recharge s info).2.status = 400 ∨ (recharge s info).2.status = 404) ∧ (recharge s info).1 = s) ∨
    ∃ (ueId rgStr : Bytes) (rg : Int) (ue : Ue), splitUnderscore info = [ueId, rgStr] ∧ findUe s.ues ueId = some ue ∧
      (recharge s info).2.status = 204 ∧
      (recharge s info).1 = { s with ues := putUe s.ues { ue with groups := recharged ue.groups rg } } := by
  unfold recharge
  split
  next ueId rgStr hsp =>
    split
    next => exact Or.inl ⟨Or.inl rfl, rfl⟩
    next rg _ =>
      split
      next => exact Or.inl ⟨Or.inr rfl, rfl⟩
      next ue hu => exact Or.inr ⟨ueId, rgStr, rg, ue, hsp, hu, rfl, rfl⟩
  next => exact Or.inl ⟨Or.inl rfl, rfl⟩

theorem creditAcct_cases (s : State) (supi : Bytes) (rg : Nat) (amt : Int) :
    (creditAcct s supi rg amt = s ∧ balOf s.accts supi rg = none) ∨
    ∃ q v, Abmf.find s.accts supi rg = some q ∧ balOf s.accts supi rg = some v ∧
      creditAcct s supi rg amt = { s with accts := Abmf.put s.accts supi rg (.num (v + amt)) } := by
  unfold creditAcct balOf
  cases hf : Abmf.find s.accts supi rg with
  | none => exact Or.inl ⟨rfl, rfl⟩
  | some q =>
    cases hp : q.parse with
    | none => exact Or.inl ⟨by simp only [hp], hp⟩
    | some v => exact Or.inr ⟨q, v, rfl, hp, by simp only [hp]⟩

/-- an external credit is no API call: it is answered with no status -/
theorem credit_status (guard : SplitGuard) (s : State) (supi : Bytes) (rg : Nat) (amt : Int) :
    (step guard s (.credit supi rg amt)).2.status = 0 := rfl

theorem step_shape (guard : SplitGuard) (s : State) (op : Op) :
    Idle guard s op ∨ ∃ supi u' key x, Writes guard s op supi u' key x := by
  cases op with
  | create r =>
    cases hnf : r.nf with
    | none => exact Or.inl (by constructor <;> simp [step, create, chargedUsages, contributed, contribSess, hnf])
    | some nf =>
    by_cases hp : supiAccepted r.supi = true
    · right
      cases hb : r.bad with
      | true =>
        have e : step guard s (.create r) = _ := create_bad s r nf hnf hp hb
        exact ⟨r.supi, ueOr s r, [], [],
          { state := by rw [e]
            accepted := Or.inr ⟨r, rfl, hb, rfl, e⟩
            subj := rfl
            owner := ueOf_supi s r.supi
            notify := id
            recs := by rw [e]; exact .keep _ (by dsimp only; split <;> omega)
            money := Or.inr ⟨rfl, fun _ => rfl, by rw [e]⟩
            contrib := fun supi => by simp [contributed, show create s r = _ from e]
            contribSess := fun supi sid => by simp [contribSess, show create s r = _ from e] }⟩
      | false =>
        obtain ⟨u', e, hsup, hg, hn, _, hrecs⟩ := create_acc s r nf hnf hp hb
        have e' : step guard s (.create r) = _ := e
        exact ⟨r.supi, u', if r.one then [] else sessionId r.supi nf s.sessionSeq, toRecUsage r.usages,
          { state := by rw [e']
            accepted := Or.inl (Or.inl (by rw [e']))
            subj := rfl
            owner := hsup
            notify := fun h => hn.trans (congrArg (· || r.uri) h)
            recs := by rw [e']; exact hrecs
            money := Or.inr ⟨rfl, fun rg => by rw [hg]; rfl, by rw [e']⟩
            contrib := fun supi => by simp only [contributed, e, true_and]
            contribSess := fun supi k => by simp only [contribSess, e, true_and, Option.some.injEq] }⟩
    · exact Or.inl (by constructor <;> simp [step, create, chargedUsages, contributed, contribSess, hnf, hp])
  | update k r =>
    cases hu : findUe s.ues r.supi with
    | none => exact Or.inl (by constructor <;> simp [step, update, chargedUsages, contributed, contribSess, hu])
    | some ue =>
      cases hl : lookupSid ue.cdr k with
      | none => exact Or.inl (by constructor <;> simp [step, update, chargedUsages, contributed, contribSess, hu, hl])
      | some idx =>
        obtain ⟨ue', e, hsup, hn, hg, hrecs⟩ := update_acc guard s k r ue idx hu hl
        have e' : step guard s (.update k r) = _ := e
        cases ueOf_of_find hu   -- from here on `ue` is `ueOf s r.supi`
        exact Or.inr ⟨r.supi, ue', k, toRecUsage r.usages,
          { state := by rw [e']
            accepted := Or.inl (Or.inr (Or.inl (by rw [e'])))
            subj := rfl
            owner := hsup.trans (ueOf_supi s r.supi)
            notify := by rw [hn]; exact id
            recs := by rw [e']; exact hrecs
            money := Or.inl ⟨r.trigs, r.usages, by simp only [chargedUsages, hu, hl], hg, by rw [e']⟩
            contrib := fun supi => by simp only [contributed, e, true_and]
            contribSess := fun supi sid => by simp only [contribSess, e, true_and] }⟩
  | release k r =>
    cases hu : findUe s.ues r.supi with
    | none => exact Or.inl (by constructor <;> simp [step, release, chargedUsages, contributed, contribSess, hu])
    | some ue =>
      cases hl : lookupSid ue.cdr k with
      | none => exact Or.inl (by constructor <;> simp [step, release, chargedUsages, contributed, contribSess, hu, hl])
      | some idx =>
        obtain ⟨ue', e, hsup, hn, hg, hrecs⟩ := release_acc s k r ue idx hu hl
        have e' : step guard s (.release k r) = _ := e
        cases ueOf_of_find hu
        exact Or.inr ⟨r.supi, ue', k, toRecUsage r.usages,
          { state := by rw [e']
            accepted := Or.inl (Or.inr (Or.inr (by rw [e'])))
            subj := rfl
            owner := hsup.trans (ueOf_supi s r.supi)
            notify := by rw [hn]; exact id
            recs := by rw [e']; exact hrecs
            money := Or.inl ⟨r.trigs, r.usages, by simp only [chargedUsages, hu, hl], hg, by rw [e']⟩
            contrib := fun supi => by simp only [contributed, e, true_and]
            contribSess := fun supi sid => by simp only [contribSess, e, true_and] }⟩
  | recharge info =>
    rcases recharge_cases s info with ⟨h4, e⟩ | ⟨ueId, rgStr, rg, ue, hsp, hu, hst, e⟩
    · have e' : (step guard s (.recharge info)).1 = s := e
      exact Or.inl { same := by rw [e'], answer := Or.inl ⟨h4, by rw [e']⟩, charged := rfl, contrib := fun _ => rfl,
                     contribSess := fun _ _ => rfl }
    · have e' : (step guard s (.recharge info)).1 = _ := e
      cases ueOf_of_find hu
      exact Or.inr ⟨ueId, { ueOf s ueId with groups := recharged (ueOf s ueId).groups rg }, [], [],
        { state := by rw [e']
          accepted := Or.inl (Or.inr (Or.inr hst))
          subj := by simp only [subject, hsp]
          owner := ueOf_supi s ueId
          notify := id
          recs := by rw [e']; exact .keep _ (Nat.le_refl _)
          money := Or.inr ⟨rfl, resv_recharged _ _, by rw [e']⟩
          contrib := fun _ => by simp [contributed]
          contribSess := fun _ _ => by simp [contribSess] }⟩
  | credit a b c =>
    -- an external credit changes nothing but the account store
    have same : (step guard s (.credit a b c)).1 = { s with accts := (creditAcct s a b c).accts } := by
      rcases creditAcct_cases s a b c with ⟨e, _⟩ | ⟨_, _, _, _, e⟩ <;> exact e.trans (by rw [e])
    exact Or.inl { same := same, answer := Or.inr ⟨a, b, c, rfl⟩, charged := rfl, contrib := fun _ => rfl,
                   contribSess := fun _ _ => rfl }

section
variable {guard : SplitGuard} {s : State} {op : Op} {supi : Bytes} {u' : Ue} {key : Bytes} {x : List RecUsage}

theorem Idle.ues (i : Idle guard s op) : (step guard s op).1.ues = s.ues := by
  rw [i.same]

theorem Idle.seq (i : Idle guard s op) : (step guard s op).1.sessionSeq = s.sessionSeq := by
  rw [i.same]

theorem Idle.ueOf (i : Idle guard s op) (supi : Bytes) : ueOf (step guard s op).1 supi = ueOf s supi := by
  unfold Charging.ueOf; rw [i.ues]

theorem Writes.ues (w : Writes guard s op supi u' key x) : (step guard s op).1.ues = putUe s.ues u' := by
  rw [w.state]

theorem Writes.findUe (w : Writes guard s op supi u' key x) (supi' : Bytes) :
    findUe (step guard s op).1.ues supi' = if supi' = supi then some u' else findUe s.ues supi' := by
  rw [w.ues, findUe_putUe, w.owner]

theorem Writes.ueOf (w : Writes guard s op supi u' key x) (supi' : Bytes) :
    ueOf (step guard s op).1 supi' = if supi' = supi then u' else ueOf s supi' := by
  unfold Charging.ueOf; rw [w.findUe]; by_cases e : supi' = supi <;> simp only [e, if_true, if_false]

theorem Writes.groupsOf (w : Writes guard s op supi u' key x) (supi' : Bytes) :
    groupsOf (step guard s op).1 supi' = if supi' = supi then u'.groups else groupsOf s supi' := by
  rw [groupsOf_eq, groupsOf_eq, w.ueOf]; split <;> rfl

end

theorem step_const (guard : SplitGuard) (s : State) (op : Op) :
    (step guard s op).1.tariffs = s.tariffs ∧ (step guard s op).1.abmfUp = s.abmfUp ∧ (step guard s op).1.rfUp = s.rfUp := by
  rcases step_shape guard s op with i | ⟨_, _, _, _, w⟩
  · rw [i.same]; exact ⟨rfl, rfl, rfl⟩
  · rw [w.state]; exact ⟨rfl, rfl, rfl⟩

theorem step_others (guard : SplitGuard) (s : State) (op : Op) (supi : Bytes) (h : subject op ≠ some supi) :
    findUe (step guard s op).1.ues supi = findUe s.ues supi := by
  rcases step_shape guard s op with i | ⟨supi', u', key, x, w⟩
  · rw [i.ues]
  · rw [w.findUe, if_neg]
    intro e; rw [w.subj, e] at h; exact h rfl

theorem RecStep.le {n n' cdr rs cdr' rs' key x} (h : RecStep n cdr rs cdr' rs' n' key x) : n ≤ n' := by
  cases h <;> omega

theorem step_seq_le (guard : SplitGuard) (s : State) (op : Op) : s.sessionSeq ≤ (step guard s op).1.sessionSeq := by
  rcases step_shape guard s op with i | ⟨_, _, _, _, w⟩
  · rw [i.seq]; exact Nat.le_refl _
  · exact w.recs.le

/-- A property of session counter, session map and records that every `RecStep` preserves and that a context without
    sessions has: if every context has it before an operation, every context has it afterwards.  (The contexts the
    operation does not write see the counter grow: that is `RecStep.keep`.) -/
theorem recs_invariant {P : Nat → List (Bytes × Nat) → List Record → Prop}
    (hP : ∀ {n n' cdr rs cdr' rs' key x}, RecStep n cdr rs cdr' rs' n' key x → P n cdr rs → P n' cdr' rs')
    (h0 : ∀ n, P n [] []) (guard : SplitGuard) (s : State) (op : Op) (h : ∀ u ∈ s.ues, P s.sessionSeq u.cdr u.records) :
    ∀ u ∈ (step guard s op).1.ues, P (step guard s op).1.sessionSeq u.cdr u.records := by
  rcases step_shape guard s op with i | ⟨supi, u', key, x, w⟩
  · rw [i.ues, i.seq]; exact h
  · intro v hv
    rw [w.ues] at hv
    rcases mem_putUe hv with rfl | hv
    · exact hP w.recs (ueOf_of_ues h (fun _ => h0 _) supi)
    · exact hP (.keep _ (step_seq_le guard s op)) (h v hv)

/-! ### the notification address: once a consumer of the subscriber has registered one (an accepted create that carries a
  notifyUri), no operation takes it away again -/

theorem registered_step (guard : SplitGuard) (s : State) (op : Op) (supi : Bytes) (u : Ue)
    (hu : findUe s.ues supi = some u) (hreg : u.notifyUri = true) :
    ∃ u', findUe (step guard s op).1.ues supi = some u' ∧ u'.notifyUri = true := by
  rcases step_shape guard s op with i | ⟨supi', u', key, x, w⟩
  · rw [i.ues]; exact ⟨u, hu, hreg⟩
  · rw [w.findUe]
    by_cases e : supi = supi'
    · rw [if_pos e]; exact ⟨u', rfl, w.notify (by rw [← e, ueOf_of_find hu]; exact hreg)⟩
    · rw [if_neg e]; exact ⟨u, hu, hreg⟩

end Chf.Charging
