import ChfVerif.Lemmas.ChargingShape
/-
  Per-session, in-order bookkeeping of reported usage (C02 at full strength).

  `sessUsage s supi sid` = the usage entries of the records of subscriber `supi` that carry the session reference
  `sid`, in record order and, within a record, in list order.  `sess_step`: every operation appends exactly what it
  contributes to that session (the usage of an accepted create that returned `sid`, of an accepted update / release
  addressed to `sid`) AT THE END and leaves every other session's usage as it was — under the invariant `SessInv`
  (the session map designates the last record of the session, record references carry smaller sequence numbers than
  the counter, the map has no duplicate keys), which every operation preserves.
-/
namespace Chf.Charging
open Chf

def sessUsageRecs : List Record → Bytes → List RecUsage
  | [], _ => []
  | r :: rs, sid => (if r.sid = some sid then r.usage else []) ++ sessUsageRecs rs sid

def sidsOf (rs : List Record) : List (Option Bytes) := rs.map (·.sid)

theorem sidsOf_append (rs : List Record) (r : Record) : sidsOf (rs ++ [r]) = sidsOf rs ++ [r.sid] := by
  simp [sidsOf]

theorem sidsOf_length (rs : List Record) : (sidsOf rs).length = rs.length := by simp [sidsOf]

theorem sidsOf_set (rs : List Record) (i : Nat) (r' : Record) (hi : i < rs.length) (hs : r'.sid = rs[i].sid) :
    sidsOf (rs.set i r') = sidsOf rs := by
  have : rs[i].sid = (rs.map (·.sid))[i]'(by simpa using hi) := by simp
  rw [sidsOf, List.map_set, hs, this]
  exact List.set_getElem_self _

theorem sess_cat (a b : List Record) (sid : Bytes) :
    sessUsageRecs (a ++ b) sid = sessUsageRecs a sid ++ sessUsageRecs b sid := by
  induction a with
  | nil => rfl
  | cons x t ih => simp [sessUsageRecs, ih]

theorem sess_append (rs : List Record) (r : Record) (sid : Bytes) :
    sessUsageRecs (rs ++ [r]) sid = sessUsageRecs rs sid ++ (if r.sid = some sid then r.usage else []) := by
  simp [sess_cat, sessUsageRecs]

theorem sess_nil {l : List Record} {sid : Bytes} (h : some sid ∉ sidsOf l) : sessUsageRecs l sid = [] := by
  induction l with
  | nil => rfl
  | cons b t ih =>
    simp only [sidsOf, List.map_cons, List.mem_cons, not_or] at h
    have hb : b.sid ≠ some sid := fun e => h.1 e.symm
    simp [sessUsageRecs, ih h.2, hb]

theorem sess_at (rs : List Record) (i : Nat) (sid : Bytes) (hi : i < rs.length) (r' : Record) :
    sessUsageRecs (rs.set i r') sid = sessUsageRecs (rs.take i) sid ++
      ((if r'.sid = some sid then r'.usage else []) ++ sessUsageRecs (rs.drop (i + 1)) sid) := by
  rw [List.set_eq_take_append_cons_drop, if_pos hi, sess_cat]; rfl

/-- Usage `x` is appended to record `i`: a session the record does not belong to is not touched; the record's own
    session gets `x` at its END when record `i` is the session's last record. -/
theorem sess_set (rs : List Record) (i : Nat) (r' : Record) (sid : Bytes) (x : List RecUsage) (hi : i < rs.length)
    (hs : r'.sid = rs[i].sid) (hu : r'.usage = rs[i].usage ++ x)
    (hlast : rs[i].sid = some sid → some sid ∉ (sidsOf rs).drop (i + 1)) :
    sessUsageRecs (rs.set i r') sid = sessUsageRecs rs sid ++ (if rs[i].sid = some sid then x else []) := by
  have e := sess_at rs i sid hi rs[i]
  rw [List.set_getElem_self] at e
  rw [sess_at rs i sid hi r', e, hs, hu]
  by_cases h : rs[i].sid = some sid
  · have hD : sessUsageRecs (rs.drop (i + 1)) sid = [] := sess_nil (by rw [sidsOf, List.map_drop]; exact hlast h)
    simp [h, hD]
  · simp [h]

/-! ### the invariant -/

/-- a reference issued with a sequence number below `n`; `SidBelow n k` of Lemmas/ChargingSids.lean is `k = [] ∨ SidBelow' n k` -/
def SidBelow' (n : Nat) (k : Bytes) : Prop := ∃ supi nf m, k = sessionId supi nf m ∧ m < n

/-- session map (`cdr`) and records (`rs`) of one subscriber context fit together, `n` the session counter -/
structure CrInv (n : Nat) (cdr : List (Bytes × Nat)) (rs : List Record) : Prop where
  nodup : (cdr.map (·.1)).Nodup
  idx : ∀ p ∈ cdr, p.2 < rs.length
  /-- an entry under the empty reference designates a record without reference.  No history produces such an entry
      (`NoEmptyKey`), but this invariant is about one context and does not know that: an update addressed to `[]` that
      found one would split into a record without reference -/
  evt : ∀ p ∈ cdr, p.1 = [] → (sidsOf rs)[p.2]? = some none
  /-- every other entry designates the LAST record that carries its reference -/
  live : ∀ p ∈ cdr, p.1 ≠ [] → (sidsOf rs)[p.2]? = some (some p.1) ∧ some p.1 ∉ (sidsOf rs).drop (p.2 + 1)
  below : ∀ k, some k ∈ sidsOf rs → k ≠ [] ∧ SidBelow' n k

def SessInv (s : State) : Prop := ∀ u ∈ s.ues, CrInv s.sessionSeq u.cdr u.records

theorem CrInv.mono {n m : Nat} {cdr rs} (h : CrInv n cdr rs) (hnm : n ≤ m) : CrInv m cdr rs :=
  { h with below := fun k hk => ⟨(h.below k hk).1, by
      obtain ⟨a, b, c, e, lt⟩ := (h.below k hk).2
      exact ⟨a, b, c, e, by omega⟩⟩ }

theorem CrInv.below_append {n m : Nat} {cdr rs} (h : CrInv n cdr rs) (hnm : n ≤ m) (rec : Record)
    (hrec : ∀ k, rec.sid = some k → k ≠ [] ∧ SidBelow' m k) :
    ∀ k, some k ∈ sidsOf (rs ++ [rec]) → k ≠ [] ∧ SidBelow' m k := by
  intro k hk
  rw [sidsOf_append, List.mem_append, List.mem_singleton] at hk
  rcases hk with hk | hk
  · exact (h.mono hnm).below k hk
  · exact hrec k hk.symm

/-- Entry `p` of a session map fits the records `rs`: the clauses `idx`, `evt` and `live` of `CrInv` for one entry, with
    `evt` and the first half of `live` as one equation. -/
def Designates (rs : List Record) (p : Bytes × Nat) : Prop :=
  p.2 < rs.length ∧ (sidsOf rs)[p.2]? = some (if p.1 = [] then none else some p.1) ∧
  (p.1 ≠ [] → some p.1 ∉ (sidsOf rs).drop (p.2 + 1))

theorem CrInv.designates {n cdr rs} (h : CrInv n cdr rs) {p : Bytes × Nat} (hp : p ∈ cdr) : Designates rs p := by
  refine ⟨h.idx p hp, ?_, fun hk => (h.live p hp hk).2⟩
  by_cases hk : p.1 = []
  · rw [if_pos hk]; exact h.evt p hp hk
  · rw [if_neg hk]; exact (h.live p hp hk).1

theorem CrInv.of_designates {n cdr rs} (hnd : (cdr.map (·.1)).Nodup) (hd : ∀ p ∈ cdr, Designates rs p)
    (hb : ∀ k, some k ∈ sidsOf rs → k ≠ [] ∧ SidBelow' n k) : CrInv n cdr rs :=
  ⟨hnd, fun p hp => (hd p hp).1, fun p hp hk => by have := (hd p hp).2.1; rwa [if_pos hk] at this,
    fun p hp hk => ⟨by have := (hd p hp).2.1; rwa [if_neg hk] at this, (hd p hp).2.2 hk⟩, hb⟩

theorem Designates.append {rs : List Record} {p : Bytes × Nat} (d : Designates rs p) (rec : Record)
    (hne : rec.sid ≠ some p.1) : Designates (rs ++ [rec]) p := by
  obtain ⟨hi, hat, hlast⟩ := d
  refine ⟨by simp; omega, ?_, fun hk => ?_⟩
  · rw [sidsOf_append, List.getElem?_append_left (by rw [sidsOf_length]; exact hi)]; exact hat
  · rw [sidsOf_append, List.drop_append_of_le_length (by rw [sidsOf_length]; omega)]
    simp only [List.mem_append, List.mem_singleton, not_or]
    exact ⟨hlast hk, fun e => hne e.symm⟩

theorem Designates.last (rs : List Record) (rec : Record) (key : Bytes)
    (hs : rec.sid = if key = [] then none else some key) : Designates (rs ++ [rec]) (key, rs.length) :=
  ⟨by simp, by simp [sidsOf_append, sidsOf_length, hs],
    fun _ => by rw [List.drop_of_length_le (by simp [sidsOf_length])]; simp⟩

/-- a record is appended and `key` designates it: an event record (`key = []`, no reference in the record) or a
    record carrying `key` -/
theorem CrInv.append {n m : Nat} {cdr rs} (h : CrInv n cdr rs) (hnm : n ≤ m) (key : Bytes) (rec : Record)
    (hk : (key = [] ∧ rec.sid = none) ∨ (key ≠ [] ∧ rec.sid = some key ∧ SidBelow' m key)) :
    CrInv m (setSid cdr key rs.length) (rs ++ [rec]) := by
  have hs : rec.sid = if key = [] then none else some key := by
    rcases hk with ⟨hnil, hs⟩ | ⟨hne, hs, _⟩ <;> simp [*]
  refine .of_designates (nodup_setSid _ _ h.nodup) (fun p hp => ?_) (h.below_append hnm rec fun k e => ?_)
  · -- an entry is the new one, or an old one under another key
    rcases mem_setSid_ne h.nodup hp with rfl | ⟨hp', hpk⟩
    · exact .last rs rec key hs
    · refine (h.designates hp').append rec ?_
      rw [hs]; split
      · nofun
      · exact fun e => hpk (Option.some.inj e).symm
  · rcases hk with ⟨_, hs⟩ | ⟨hne, hs, hb⟩ <;> rw [hs] at e <;> cases e
    exact ⟨hne, hb⟩

/-- the record of a one-time event is appended: it carries no reference and the session map is not touched -/
theorem CrInv.appendEvt {n m : Nat} {cdr rs} (h : CrInv n cdr rs) (hnm : n ≤ m) (rec : Record) (hs : rec.sid = none) :
    CrInv m cdr (rs ++ [rec]) :=
  .of_designates h.nodup (fun _ hp => (h.designates hp).append rec (hs ▸ nofun))
    (h.below_append hnm rec fun _ e => absurd e (hs ▸ nofun))

theorem CrInv.set {n : Nat} {cdr rs} (h : CrInv n cdr rs) (i : Nat) (r' : Record) (hi : i < rs.length)
    (hs : r'.sid = rs[i].sid) : CrInv n cdr (rs.set i r') := by
  have e := sidsOf_set rs i r' hi hs
  refine .of_designates h.nodup (fun p hp => ?_) (by rw [e]; exact h.below)
  have := h.designates hp
  unfold Designates at *
  rwa [e, List.length_set]

theorem CrInv.remove {n : Nat} {cdr rs} (h : CrInv n cdr rs) (k : Bytes) : CrInv n (removeSid cdr k) rs :=
  .of_designates (nodup_removeSid k h.nodup) (fun _ hp => h.designates (mem_removeSid hp)) h.below

theorem CrInv.empty (n : Nat) : CrInv n [] [] :=
  .of_designates (by simp) (fun _ hp => nomatch hp) (by simp [sidsOf])

/-! ### one subscriber context: usage appended to the designated record, or to a record started for the session -/

/-- the record the session map designates for `k`: it exists, and carries no reference if `k` is the event key, the reference
    `k` otherwise -/
theorem CrInv.at {n cdr rs} (h : CrInv n cdr rs) {k : Bytes} {idx : Nat} (hl : lookupSid cdr k = some idx) :
    ∃ hi : idx < rs.length, rs.getD idx default = rs[idx] ∧ rs[idx].sid = if k = [] then none else some k := by
  obtain ⟨hi, hat, _⟩ := h.designates (mem_of_lookupSid hl)
  have e : (sidsOf rs)[idx]? = some rs[idx].sid := by simp [sidsOf, hi]
  exact ⟨hi, (List.getElem_eq_getD default).symm, Option.some.inj (e.symm.trans hat)⟩

theorem ref_eq_iff {k sid : Bytes} (hsid : sid ≠ []) : (if k = [] then none else some k) = some sid ↔ k = sid := by
  by_cases hkn : k = []
  · simp [hkn, hsid.symm]
  · simp [hkn]

theorem RecStep.crInv {n n' cdr rs cdr' rs' key x} (h : RecStep n cdr rs cdr' rs' n' key x) (hc : CrInv n cdr rs) :
    CrInv n' cdr' rs' := by
  cases h with
  | keep n' hle => exact hc.mono hle
  | event rec hs => exact hc.appendEvt (Nat.le_refl _) rec hs
  | opened supi nf rec hs =>
    exact hc.append (Nat.le_succ _) _ rec (.inr ⟨sessionId_ne_nil _ _ _, hs, supi, nf, n, rfl, Nat.lt_succ_self _⟩)
  | append k idx rec x hl hs hx =>
    obtain ⟨hi, hg, _⟩ := hc.at hl
    exact hc.set idx rec hi (hg ▸ hs)
  | close k idx rec x hl hs hx =>
    obtain ⟨hi, hg, _⟩ := hc.at hl
    exact (hc.set idx rec hi (hg ▸ hs)).remove _
  | split k idx rec hl hs =>
    -- the record started carries the reference of the record it continues
    have hm := mem_of_lookupSid hl
    obtain ⟨hi, hg, hcur⟩ := hc.at hl
    apply hc.append (Nat.le_refl _) key rec
    rw [hs, hg, hcur]
    by_cases hk : key = []
    · exact .inl ⟨hk, by simp [hk]⟩
    · exact .inr ⟨hk, by simp [hk], (hc.below key (List.mem_of_getElem? (hc.live _ hm hk).1)).2⟩

theorem RecStep.sess {n n' cdr rs cdr' rs' key x} (h : RecStep n cdr rs cdr' rs' n' key x) (hc : CrInv n cdr rs)
    (sid : Bytes) (hsid : sid ≠ []) :
    sessUsageRecs rs' sid = sessUsageRecs rs sid ++ (if key = sid then x else []) := by
  cases h with
  | keep => simp
  | event rec hs => rw [sess_append, hs]; simp [hsid.symm]
  | opened supi nf rec hs => rw [sess_append, hs]; simp only [Option.some.injEq]
  | append k idx rec x hl hs hx | close k idx rec x hl hs hx =>
    -- the designated record is the last one of session `key`, and of no other session
    have hm := mem_of_lookupSid hl
    obtain ⟨hi, hg, hcur⟩ := hc.at hl
    rw [hg] at hs hx
    rw [sess_set rs idx rec sid x hi hs hx fun e => by
      have := (ref_eq_iff hsid).mp (hcur ▸ e); subst this; exact (hc.live (key, idx) hm hsid).2]
    simp only [hcur, ref_eq_iff hsid]
  | split k idx rec hl hs =>
    obtain ⟨hi, hg, hcur⟩ := hc.at hl
    rw [sess_append, hs, hg, hcur]
    simp only [ref_eq_iff hsid]

/-- usage recorded for session `sid` of subscriber `supi`: the records carrying the reference, in order -/
def sessUsage (s : State) (supi sid : Bytes) : List RecUsage :=
  match findUe s.ues supi with
  | some u => sessUsageRecs u.records sid
  | none => []

theorem SessInv_step (guard : SplitGuard) (s : State) (op : Op) (hinv : SessInv s) : SessInv (step guard s op).1 :=
  recs_invariant RecStep.crInv CrInv.empty guard s op hinv

theorem sessUsage_eq (s : State) (supi sid : Bytes) : sessUsage s supi sid = sessUsageRecs (ueOf s supi).records sid := by
  unfold sessUsage ueOf; cases findUe s.ues supi <;> rfl

theorem sess_step (guard : SplitGuard) (s : State) (op : Op) (supi sid : Bytes) (hsid : sid ≠ []) (hinv : SessInv s) :
    sessUsage (step guard s op).1 supi sid = sessUsage s supi sid ++ contribSess guard s op supi sid := by
  rw [sessUsage_eq, sessUsage_eq]
  rcases step_shape guard s op with i | ⟨supi', u', key, x, w⟩
  · rw [i.contribSess, i.ueOf]; simp
  · rw [w.contribSess, w.ueOf]
    by_cases e : supi = supi'
    · subst e
      rw [if_pos rfl, w.recs.sess (ueOf_of_ues hinv (fun _ => CrInv.empty _) supi) sid hsid]; simp
    · rw [if_neg e]; simp [Ne.symm e]

/-- what a history contributes to session `sid` of `supi`, in history order -/
def contribSessRun (guard : SplitGuard) (supi sid : Bytes) : State → List Op → List RecUsage
  | _, [] => []
  | s, op :: r => contribSess guard s op supi sid ++ contribSessRun guard supi sid (step guard s op).1 r

theorem sess_run (guard : SplitGuard) (supi sid : Bytes) (hsid : sid ≠ []) (ops : List Op) :
    ∀ s : State, SessInv s →
      sessUsage (run guard s ops) supi sid = sessUsage s supi sid ++ contribSessRun guard supi sid s ops := by
  induction ops with
  | nil => intro s _; simp [run, contribSessRun]
  | cons op r ih =>
    intro s h
    simp only [run, contribSessRun]
    rw [ih _ (SessInv_step guard s op h), sess_step guard s op supi sid hsid h, List.append_assoc]

theorem SessInv_init (accts : Abmf.Store) (tariffs : List Rating.Tariff) :
    SessInv { accts := accts, tariffs := tariffs } :=
  fun _ hu => nomatch hu

end Chf.Charging
