import ChfVerif.Lemmas.BerRoundTrip
import ChfVerif.Lemmas.BerShape
/- structure of encodings (every encoding is one TLV; a run of TLVs splits back into its elements): towards the
   structural round trip of C05 -/
namespace Chf.Ber
open Chf

/-- class and tag number of the outermost header of a value of type `t` encoded under `p`
    (none: an untagged CHOICE, also behind pointers and wrappers, whose header is that of the selected alternative, and
    the kinds the codec has no encoding for) -/
def elemKey (p : Params) (t : Ty) : Option (Nat × Nat) :=
  match p.tagNumber with
  | some n => some (2, n)
  | none => match expectedTag p (underlying t) with
    | some e => some (0, e)
    | none => none

theorem elemKey_tagged {p : Params} {n : Nat} (t : Ty) (h : p.tagNumber = some n) : elemKey p t = some (2, n) := by
  unfold elemKey; rw [h]

/-- an untagged CHOICE has no key of its own: it shows the tag of the alternative selected -/
theorem elemKey_choice_untagged {p : Params} (alts : Fields) (h : p.tagNumber = none) : elemKey p (.choice alts) = none := by
  unfold elemKey; rw [h]; rfl

/-- what is tagged under `p` with universal tag `tag`, the tag that `elemKey` expects, is one TLV of that key; its tag
    number is the declared one, or `tag` itself -/
theorem finish_tlv_key {p : Params} {t : Ty} {tag : Nat} (c : Bool) (content : Bytes)
    (he : expectedTag p (underlying t) = some tag) :
    ∃ cls tag' c' content', finish p c tag content = tlv cls c' tag' content' ∧ elemKey p t = some (cls, tag') ∧
      (p.tagNumber = some tag' ∨ tag' = tag) := by
  rcases tagging_cases p c tag content with ⟨hp, hf, _⟩ | ⟨n, hp, _, hf, _⟩ | ⟨n, hp, _, hf, _⟩
  · exact ⟨0, tag, _, _, hf, by simp [elemKey, hp, he], .inr rfl⟩
  · exact ⟨2, n, _, _, hf, elemKey_tagged t hp, .inl hp⟩
  · exact ⟨2, n, _, _, hf, elemKey_tagged t hp, .inl hp⟩

theorem finish_tlv {p : Params} {t : Ty} {tag cls tag' : Nat} (c : Bool) (content : Bytes)
    (he : expectedTag p (underlying t) = some tag) (hk : elemKey p t = some (cls, tag')) :
    ∃ c' content', finish p c tag content = tlv cls c' tag' content' := by
  obtain ⟨_, _, c', content', e, hk', _⟩ := finish_tlv_key c content he
  cases hk.symm.trans hk'
  exact ⟨c', content', e⟩

/-- every encoding is one TLV whose class and tag number are `elemKey`.  Only the statement about values says anything;
    `shape_induct` serves as the case analysis over the shapes (only the steps through a pointer and a wrapper use their
    hypothesis), so that `marshal` is not unfolded here -/
theorem marshal_tlv :
    (∀ t p v, ∀ b cls tag, marshal t p v = .ok b → elemKey p t = some (cls, tag) → ∃ c content, b = tlv cls c tag content) ∧
    (∀ (_ : Ty) (_ : Params) (_ : Vals), True) ∧ (∀ (_ : Fields) (_ : Vals), True) ∧ (∀ (_ : Fields) (_ : Vals) (_ : Nat), True) :=
  shape_induct {
    flat := fun t p v h b cls tag hm hk => by
      rw [marshal_flat h] at hm
      cases hlf : leaf t p v with
      | none => rw [hlf] at hm; cases hm
      | some l => rw [hlf] at hm; cases hm; exact finish_tlv _ _ (leaf_expectedTag hlf) hk
    ptr := fun t p v hn ih b cls tag hm hk => by rw [marshal_ptr hn] at hm; exact ih b cls tag hm hk
    wrap := fun t p v ih b cls tag hm hk => by rw [marshal_wrap] at hm; exact ih b cls tag hm hk
    -- a CHOICE has a key only when it is tagged, and then the context tag is its header
    choice := fun alts p k vs _ b cls tag hm hk => by
      rw [marshal_choice] at hm
      split at hm
      · cases hm
      · cases htn : p.tagNumber with
        | none => rw [elemKey_choice_untagged alts htn] at hk; cases hk
        | some n =>
          rw [htn] at hm
          obtain ⟨inner, _, rfl⟩ := Res.map_eq_ok hm
          simp only [elemKey, htn, Option.some.injEq, Prod.mk.injEq] at hk
          obtain ⟨rfl, rfl⟩ := hk
          exact ⟨true, inner, rfl⟩
    struct := fun fs p vs _ b cls tag hm hk => by
      rw [marshal_struct] at hm
      split at hm
      · cases hm
      · obtain ⟨c, _, rfl⟩ := Res.map_eq_ok hm; exact finish_tlv _ _ rfl hk
    list := fun t p vs _ b cls tag hm hk => by
      rw [marshal_list] at hm
      obtain ⟨c, _, rfl⟩ := Res.map_eq_ok hm; exact finish_tlv _ _ rfl hk
    elemsNil := fun _ _ => trivial
    elemsCons := fun _ _ _ _ _ _ => trivial
    membersNil := fun _ => trivial
    membersShort := fun _ _ _ => trivial
    membersCons := fun _ _ _ _ _ _ _ => trivial
    altNil := fun _ _ _ _ => trivial
    altZero := fun _ _ _ _ _ _ => trivial
    altSucc := fun _ _ _ _ _ _ _ => trivial }

/-- one element of class `cls` and tag number `tag` that fits the decoder's int64 arithmetic -/
def IsTlv (cls tag : Nat) (b : Bytes) : Prop :=
  ∃ c content, b = tlv cls c tag content ∧ tag < 9223372036854775808 ∧ content.length < 9223372036854775808

/-- an element list as `splitTLVs` returns it -/
def Tlvs (es : List Elem) : Prop := ∀ x ∈ es, IsTlv x.1 x.2.1 x.2.2

theorem Tlvs.nil : Tlvs [] := fun _ h => nomatch h

theorem tlvs_cons {cls tag : Nat} {b : Bytes} {es : List Elem} : Tlvs ((cls, tag, b) :: es) ↔ IsTlv cls tag b ∧ Tlvs es :=
  List.forall_mem_cons

theorem Tlvs.cons {cls tag : Nat} {b : Bytes} {es : List Elem} (hs : Tlvs es) (h : IsTlv cls tag b) :
    Tlvs ((cls, tag, b) :: es) := tlvs_cons.mpr ⟨h, hs⟩

def flat : List Elem → Bytes
  | [] => []
  | x :: r => x.2.2 ++ flat r

/-- a run of elements is cut back into them; each takes at least two octets, so the length of the run is fuel enough -/
theorem splitTLVs_flat : ∀ (es : List Elem), Tlvs es → ∀ fuel, (flat es).length ≤ fuel → splitTLVs (flat es) fuel = .ok es
  | [], _, fuel, _ => by cases fuel <;> simp [splitTLVs, flat]
  | (cls, tag, e) :: r, h, fuel, hf => by
    obtain ⟨⟨c, content, rfl, htag, hlen⟩, hr⟩ := tlvs_cons.mp h
    have h2 := tlv_length_ge_two cls c tag content
    simp only [flat, List.length_append] at hf ⊢
    obtain ⟨f, rfl⟩ : ∃ f, fuel = f + 1 := ⟨fuel - 1, by omega⟩
    rw [splitTLVs, if_neg (by rw [List.length_append]; omega), parse_tlv_append cls c tag content (flat r) htag hlen]
    simp only [talOf_end]
    rw [if_neg (by simp), sub_prefix, from_append]
    simp only [splitTLVs_flat r hr f (by omega)]
    rfl

end Chf.Ber
