import ChfVerif.Model.Abmf
/-
  The account-balance server one request at a time: the int64 conversions where nothing wraps, what `parseInt64`
  returns, `find` after `put`, `handleCCR` on a known account, and `effect` branch by branch (C07; the charging suite
  sends its requests through these).
-/
namespace Chf.Abmf

def InRange (i : Int) : Prop := -9223372036854775808 ≤ i ∧ i < 9223372036854775808

theorem wrap64_id {i : Int} (h : InRange i) : wrap64 i = i := by
  unfold wrap64; unfold InRange at h; omega

theorem wrap64_inRange (i : Int) : InRange (wrap64 i) := by
  unfold wrap64 InRange; omega

theorem toI64_small {u : Nat} (h : u < 9223372036854775808) : toI64 u = (u : Int) := by
  unfold toI64; exact wrap64_id ⟨by omega, by omega⟩

theorem toU64_eq_toNat {i : Int} (h0 : 0 ≤ i) (h1 : i < 18446744073709551616) : toU64 i = i.toNat := by
  unfold toU64; rw [Int.emod_eq_of_lt h0 h1]

theorem toU64_cast {i : Int} (h0 : 0 ≤ i) (h1 : i < 18446744073709551616) : (toU64 i : Int) = i := by
  rw [toU64_eq_toNat h0 h1]; exact Int.toNat_of_nonneg h0

theorem parseInt64_some {s : Bytes} {i : Int} (h : parseInt64 s = some i) :
    (∃ n : Nat, i = n ∧ n ≤ 9223372036854775807) ∨
      ∃ (n : Nat) (r : Bytes), i = -(n : Int) ∧ n ≤ 9223372036854775808 ∧ s = 45 :: r := by
  unfold parseInt64 at h
  -- by sign; under each, a result needs digits that parse and a magnitude within the range
  split at h <;> split at h <;> try split at h
  all_goals cases h
  · exact .inl ⟨_, rfl, ‹_›⟩
  · exact .inr ⟨_, _, rfl, ‹_›, rfl⟩
  · exact .inl ⟨_, rfl, ‹_›⟩

theorem parseInt64_inRange {s : Bytes} {i : Int} (h : parseInt64 s = some i) : InRange i := by
  unfold InRange
  rcases parseInt64_some h with ⟨n, rfl, hn⟩ | ⟨n, _, rfl, hn, _⟩ <;> omega

theorem parseInt64_neg {s : Bytes} {i : Int} (h : parseInt64 s = some i) (hi : i < 0) : ∃ r, s = 45 :: r := by
  rcases parseInt64_some h with ⟨n, rfl, _⟩ | ⟨_, r, _, _, hs⟩
  · omega
  · exact ⟨r, hs⟩

/-- `put` overwrites the quota of an account that exists and does nothing else -/
theorem find_put (st : Store) (ue ue' : Bytes) (rg rg' : Nat) (q : Quota) :
    find (put st ue rg q) ue' rg' =
      if ue' = ue ∧ rg' = rg then (find st ue rg).map fun _ => q else find st ue' rg' := by
  induction st with
  | nil => simp [put, find]
  | cons a r ih =>
    by_cases hk' : ue' = ue ∧ rg' = rg
    · obtain ⟨rfl, rfl⟩ := hk'
      by_cases hk : a.ue = ue' ∧ a.rg = rg' <;> simp [put, find, hk, ih]
    · have hs : ¬ (ue = ue' ∧ rg = rg') := fun h => hk' ⟨h.1.symm, h.2.symm⟩
      by_cases hk : a.ue = ue ∧ a.rg = rg <;> simp [put, find, hk, hk', hs, ih]

theorem find_put_same {st : Store} {ue : Bytes} {rg : Nat} {q0 : Quota} (q : Quota)
    (h : find st ue rg = some q0) : find (put st ue rg q) ue rg = some q := by
  rw [find_put, if_pos ⟨rfl, rfl⟩, h]; rfl

theorem find_put_other {st : Store} {ue ue' : Bytes} {rg rg' : Nat} (q : Quota)
    (hne : ¬ (ue' = ue ∧ rg' = rg)) : find (put st ue rg q) ue' rg' = find st ue' rg' := by
  rw [find_put, if_neg hne]

theorem put_absent {st : Store} {ue : Bytes} {rg : Nat} (q : Quota) (h : find st ue rg = none) :
    put st ue rg q = st := by
  induction st with
  | nil => rfl
  | cons a r ih =>
    unfold find at h
    by_cases hk : a.ue = ue ∧ a.rg = rg
    · simp [hk] at h
    · simp only [hk, if_false] at h
      simp [put, hk, ih h]

section
variable {st : Store} {c : CCR} {q : Quota} {quota : Int}

theorem handleCCR_known (hf : find st (subscriberId c) c.rg = some q) (hp : q.parse = some quota) :
    handleCCR st c =
      (put st (subscriberId c) c.rg (.num (effect quota c).1),
       .answer c.sess c.reqType c.reqNum (effect quota c).2.1 (effect quota c).2.2) := by
  unfold handleCCR
  rw [hf]; simp only [hp]

theorem handleCCR_silent (h : ∀ q, find st (subscriberId c) c.rg = some q → q.parse = none) :
    handleCCR st c = (st, .noAnswer) := by
  unfold handleCCR
  cases hf : find st (subscriberId c) c.rg with
  | none => rfl
  | some q => simp only [h q hf]

theorem find_handleCCR (hf : find st (subscriberId c) c.rg = some q) (hp : q.parse = some quota) :
    find (handleCCR st c).1 (subscriberId c) c.rg = some (.num (effect quota c).1) := by
  rw [handleCCR_known hf hp]; exact find_put_same _ hf

end

/-! ### `effect` branch by branch, with the int64 wrap-around gone where the exact result fits -/

section
variable {b : Int} {c : CCR}

theorem effect_reserve (ha : c.action = 0) (ht : c.reqType = 1 ∨ c.reqType = 2)
    (hr : c.rsu < 9223372036854775808) (hb : InRange b) :
    effect b c = (b - min (c.rsu : Int) (max b 0), some (min (c.rsu : Int) (max b 0)).toNat,
      decide ((c.rsu : Int) > b)) := by
  unfold InRange at hb
  -- whichever branch computes the grant `g`, it is `min requested (max balance 0)`, and nothing wraps
  have key : ∀ (g : Int) (f : Bool), g = min (c.rsu : Int) (max b 0) → f = decide ((c.rsu : Int) > b) →
      (wrap64 (b - g), some (toU64 g), f) =
        (b - min (c.rsu : Int) (max b 0), some (min (c.rsu : Int) (max b 0)).toNat, decide ((c.rsu : Int) > b)) := by
    rintro g f rfl rfl
    rw [wrap64_id ⟨by omega, by omega⟩, toU64_eq_toNat (by omega) (by omega)]
  simp only [effect, ha, ht, toI64_small hr, if_true, Nat.zero_ne_one, if_false]
  split
  · exact key _ _ (by split <;> omega) (by simp [*])
  · exact key _ _ (by omega) (by simp [*])

theorem effect_refund (ha : c.action = 1) (hr : c.rsu < 9223372036854775808)
    (hb : InRange (b + c.rsu)) : effect b c = (b + c.rsu, none, false) := by
  simp only [effect, ha, if_true, toI64_small hr, wrap64_id hb]

theorem effect_termination (ha : c.action = 0) (ht : c.reqType = 3)
    (hu : c.usu < 9223372036854775808) (hb : InRange (b - c.usu)) : effect b c = (b - c.usu, none, false) := by
  simp [effect, ha, ht, toI64_small hu, wrap64_id hb]

theorem effect_other (h : 2 ≤ c.action ∨ (c.action = 0 ∧ c.reqType ≠ 1 ∧ c.reqType ≠ 2 ∧ c.reqType ≠ 3)) :
    effect b c = (b, none, false) := by
  unfold effect
  rcases h with h | ⟨ha, h1, h2, h3⟩
  · rw [if_neg (by omega), if_neg (by omega)]
  · simp [ha, h1, h2, h3]

end

end Chf.Abmf
