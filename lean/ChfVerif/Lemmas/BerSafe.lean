import ChfVerif.Lemmas.BerRes
/-
  The decoder (`unmarshal` and its list walkers, Model/Ber.lean) shape by shape, as Lemmas/BerShape.lean does for the
  encoders, and C16: it never reaches a Go panic.  The partial accessors (`idx`, `sub`, `from_`) are all guarded by the
  length checks of the header parser and of `enter` (`parseTagAndLength_spec`, `enter_spec`); everything else hands on
  what its parts return.
-/
namespace Chf.Ber
open Chf

theorem idx_ok {b : Bytes} {i : Nat} (h : i < b.length) : ∃ x, idx b i = .ok x := by
  unfold idx
  rw [List.getElem?_eq_getElem h]
  exact ⟨_, rfl⟩

theorem sub_ok {b : Bytes} {i j : Nat} (h : i ≤ j ∧ j ≤ b.length) : ∃ x, sub b i j = .ok x := by
  unfold sub; rw [if_pos h]; exact ⟨_, rfl⟩

theorem from_ok {b : Bytes} {i : Nat} (h : i ≤ b.length) : from_ b i = .ok (b.drop i) := by
  unfold from_; rw [if_pos h]

theorem drop_of_from {b r : Bytes} {i : Nat} (h : from_ b i = .ok r) : b.drop i = r := by
  unfold from_ at h
  split at h
  · exact Res.ok.inj h
  · cases h

/-- the length stage of `parseTagAndLength`: the length octets start at `off` -/
def parseLen (b : Bytes) (cls : Nat) (constructed : Bool) (tag off : Nat) : Res Tal :=
  if off ≥ b.length then .err
  else
    match idx b off with
    | .ok l0 =>
      if l0 ≤ 127 then .ok ⟨cls, constructed, tag, l0, off + 1⟩
      else
        let n := l0 % 128
        if n > 8 then .err
        else if n = 0 then .err
        else if off + 1 + n > b.length then .err
        else
          match sub b (off + 1) (off + 1 + n) with
          | .ok ds =>
            if beValue ds 0 ≥ 9223372036854775808 ∨ beValue ds 0 > b.length then .err
            else .ok ⟨cls, constructed, tag, beValue ds 0, off + 1 + n⟩
          | .err => .err
          | .panic => .panic
    | .err => .err
    | .panic => .panic

/-- the tag stage: the tag number, and where the length octets start -/
def parseTag (b0 : Nat) (r : Bytes) : Nat × Nat :=
  if b0 % 32 ≠ 31 then (b0 % 32, 1) else highTagLoop (b0 :: r) 1 0 (b0 :: r).length

theorem parseTagAndLength_cons (b0 : Nat) (r : Bytes) :
    parseTagAndLength (b0 :: r) =
      match parseTag b0 r with
      | (tag, off) =>
        if b0 % 32 = 31 ∧ off > 10 then .err
        else parseLen (b0 :: r) (b0 / 64) (decide (b0 / 32 % 2 = 1)) tag off := by
  rfl

theorem parseLen_spec (b : Bytes) (cls : Nat) (c : Bool) (tag off : Nat) :
    parseLen b cls c tag off ≠ .panic ∧ ∀ t, parseLen b cls c tag off = .ok t → off < t.off ∧ t.off ≤ b.length := by
  -- the conditions are named and rewritten one at a time: `split` goes through the whole ladder again at every step
  unfold parseLen
  by_cases h0 : off ≥ b.length
  · rw [if_pos h0]; exact ⟨nofun, fun _ h => nomatch h⟩
  obtain ⟨l0, hl0⟩ := idx_ok (b := b) (i := off) (by omega)
  rw [if_neg h0, hl0]
  dsimp only
  by_cases h1 : l0 ≤ 127
  · rw [if_pos h1]; exact ⟨nofun, fun t ht => by cases ht; exact ⟨Nat.lt_succ_self _, Nat.lt_of_not_le h0⟩⟩
  by_cases h2 : l0 % 128 > 8
  · rw [if_neg h1, if_pos h2]; exact ⟨nofun, fun _ h => nomatch h⟩
  by_cases h3 : l0 % 128 = 0
  · rw [if_neg h1, if_neg h2, if_pos h3]; exact ⟨nofun, fun _ h => nomatch h⟩
  by_cases h4 : off + 1 + l0 % 128 > b.length
  · rw [if_neg h1, if_neg h2, if_neg h3, if_pos h4]; exact ⟨nofun, fun _ h => nomatch h⟩
  obtain ⟨ds, hds⟩ := sub_ok (b := b) (i := off + 1) (j := off + 1 + l0 % 128) ⟨by omega, by omega⟩
  rw [if_neg h1, if_neg h2, if_neg h3, if_neg h4, hds]
  dsimp only
  split
  · exact ⟨nofun, fun _ h => nomatch h⟩
  · exact ⟨nofun, fun t ht => by cases ht; exact ⟨by dsimp only; omega, by dsimp only; omega⟩⟩

/-- the header parser never panics, and a header it accepts lies inside the input -/
theorem parseTagAndLength_spec (b : Bytes) :
    parseTagAndLength b ≠ .panic ∧ ∀ t, parseTagAndLength b = .ok t → 1 ≤ t.off ∧ t.off ≤ b.length := by
  cases b with
  | nil => exact ⟨nofun, fun _ h => nomatch h⟩
  | cons b0 r =>
    rw [parseTagAndLength_cons]
    -- whatever the tag stage returns
    generalize parseTag b0 r = to
    obtain ⟨tag, off⟩ := to
    dsimp only
    split
    · exact ⟨nofun, fun _ h => nomatch h⟩
    · have h := parseLen_spec (b0 :: r) (b0 / 64) (decide (b0 / 32 % 2 = 1)) tag off
      exact ⟨h.1, fun t ht => ⟨by have := (h.2 t ht).1; omega, (h.2 t ht).2⟩⟩

theorem parseTagAndLength_no_panic (b : Bytes) : parseTagAndLength b ≠ .panic := (parseTagAndLength_spec b).1

theorem parseBitString_no_panic (c : Bytes) : parseBitString c ≠ .panic := by
  unfold parseBitString
  split
  · nofun
  · obtain ⟨u, hu⟩ := idx_ok (b := c) (i := 0) (by omega)
    rw [hu]
    dsimp only
    split
    · nofun
    · rw [from_ok (by omega)]; nofun

theorem parseSigned_no_panic (c : Bytes) : parseSigned c ≠ .panic := by
  unfold parseSigned
  split
  · simp
  · split <;> simp

theorem splitTLVs_no_panic (fuel : Nat) : ∀ b, splitTLVs b fuel ≠ .panic := by
  induction fuel with
  | zero => intro b; unfold splitTLVs; split <;> nofun
  | succ f ih =>
    intro b
    unfold splitTLVs
    split
    · nofun
    · cases hp : parseTagAndLength b with
      | panic => exact absurd hp (parseTagAndLength_no_panic b)
      | err => nofun
      | ok t =>
        dsimp only
        split
        · nofun
        · obtain ⟨e, he⟩ := sub_ok (b := b) (i := 0) (j := t.off + t.len) ⟨by omega, by omega⟩
          rw [he, from_ok (by omega)]
          dsimp only
          cases hs : splitTLVs (b.drop (t.off + t.len)) f with
          | panic => exact absurd hs (ih _)
          | err => nofun
          | ok es => nofun

theorem enterInner_spec (t : Ty) (p : Params) (b : Bytes) (tal : Tal) (h : tal.off + tal.len ≤ b.length) :
    enterInner t p b tal ≠ .panic ∧
    ∀ r, enterInner t p b tal = .ok r → r.2.2.off + r.2.2.len ≤ r.1.length := by
  unfold enterInner
  obtain ⟨inner, hin⟩ := sub_ok (b := b) (i := tal.off) (j := tal.off + tal.len) ⟨by omega, by omega⟩
  simp only [hin]
  cases hp2 : parseTagAndLength inner with
  | panic => exact absurd hp2 (parseTagAndLength_no_panic inner)
  -- `nofun` for the second component too would first take the triple apart, field by field
  | err => exact ⟨nofun, fun _ h => nomatch h⟩
  | ok tal' =>
    dsimp only
    by_cases h1 : tal'.off + tal'.len > inner.length
    · rw [if_pos h1]; exact ⟨nofun, fun _ h => nomatch h⟩
    by_cases h2 : tagOk t { p with tagNumber := none, explicit := false } tal' = true
    · rw [if_neg h1, if_pos h2]
      exact ⟨nofun, fun r hr => by cases hr; dsimp only; rw [List.length_take]; omega⟩
    · rw [if_neg h1, if_neg h2]; exact ⟨nofun, fun _ h => nomatch h⟩

theorem enter_eq {t : Ty} {p : Params} {b : Bytes} {tal : Tal} (hp : parseTagAndLength b = .ok tal) :
    enter t p b =
      if tal.off + tal.len > b.length then .err
      else if !tagOk t p tal then .err
      else if needsUnwrap t p then enterInner t p (b.take (tal.off + tal.len)) tal
      else .ok (b.take (tal.off + tal.len), p, tal) := by
  unfold enter; rw [hp]

/-- `enter` never panics and hands back a header that lies inside the octets it returns -/
theorem enter_spec (t : Ty) (p : Params) (b : Bytes) :
    enter t p b ≠ .panic ∧ ∀ r, enter t p b = .ok r → r.2.2.off + r.2.2.len ≤ r.1.length := by
  cases hp : parseTagAndLength b with
  | panic => exact absurd hp (parseTagAndLength_no_panic b)
  | err => unfold enter; rw [hp]; exact ⟨nofun, fun _ h => nomatch h⟩
  | ok tal =>
    rw [enter_eq hp]
    by_cases h1 : tal.off + tal.len > b.length
    · rw [if_pos h1]; exact ⟨nofun, fun _ h => nomatch h⟩
    by_cases h2 : (!tagOk t p tal) = true
    · rw [if_neg h1, if_pos h2]; exact ⟨nofun, fun _ h => nomatch h⟩
    by_cases h3 : needsUnwrap t p = true
    · rw [if_neg h1, if_neg h2, if_pos h3]
      exact enterInner_spec t p (b.take (tal.off + tal.len)) tal (by rw [List.length_take]; omega)
    · rw [if_neg h1, if_neg h2, if_neg h3]
      exact ⟨nofun, fun r hr => by cases hr; dsimp only; rw [List.length_take]; omega⟩

theorem from_enter_no_panic {t : Ty} {p : Params} {b : Bytes} {r : Bytes × Params × Tal} (h : enter t p b = .ok r) :
    from_ r.1 r.2.2.off ≠ .panic := by
  have hb := (enter_spec t p b).2 r h
  rw [from_ok (by omega)]; nofun

/-- the types the decoder does not recurse into: everything ParseField decodes from the content octets alone (OBJECT
    IDENTIFIER and unsupported kinds included: they are errors) -/
def isPrim : Ty → Bool
  | .ptr _ | .wrap _ | .slice _ | .choice _ | .struct _ => false
  | _ => true

/-- what ParseField makes of the content octets of a primitive -/
def primValue : Ty → Bytes → Res Val
  | .bits, c => parseBitString c
  | .octets, c => .ok (.bytes c)
  | .enum, c => (parseSigned c).map .int
  | .null, _ => .ok (.null true)
  | .bool, c => match c[0]? with
    | some x => .ok (.bool (x ≠ 0))
    | none => .err
  | .int w, c => (parseSigned c).map fun i => .int (truncInt w i)
  | .str _, c => .ok (.str c)
  | _, _ => .err

theorem unmarshal_prim (t : Ty) (p : Params) (b : Bytes) (ht : isPrim t = true) :
    unmarshal t p b = (enter t p b).bind fun r => primValue t (r.1.drop r.2.2.off) := by
  rw [unmarshal.eq_def]
  cases t <;> first | exact Bool.noConfusion ht | simp only []
  all_goals
    cases he : enter _ p b with
    | err => rfl
    | panic => rfl
    | ok r =>
      obtain ⟨b', p', tal⟩ := r
      have hb := (enter_spec _ p b).2 _ he
      dsimp only [Res.bind]
      rw [from_ok (Nat.le_trans (Nat.le_add_right _ _) hb)]
      first
        | rfl
        -- INTEGER, ENUMERATED: the decoder's own three-way `match` is `Res.map`
        | (simp only [primValue]; cases parseSigned (b'.drop tal.off) <;> rfl)
        -- BOOLEAN alone indexes `b'` itself, behind a length check of its own
        | simp only [primValue, idx, List.getElem?_drop, Nat.add_zero]
          split
          · rw [List.getElem?_eq_none (by omega)]
          · rw [List.getElem?_eq_getElem (by omega)]

/-- an element as `splitTLVs` hands it to the list walkers: class, tag number, the whole element -/
abbrev Elem := Nat × Nat × Bytes

section
variable {t : Ty} {p : Params} {b e : Bytes} {all alts fs r : Fields} {i cls tag : Nat} {x : Elem} {es : List Elem} {acc : Vals}

theorem unmarshal_ptr : unmarshal (.ptr t) p b = unmarshal t p b := by
  rw [unmarshal.eq_def]

theorem unmarshal_wrap :
    unmarshal (.wrap t) p b = (enter (.wrap t) p b).bind fun r => unmarshal t r.2.1 r.1 := by
  rw [unmarshal.eq_def]; simp only []; cases enter (.wrap t) p b <;> rfl

theorem unmarshal_choice :
    unmarshal (.choice alts) p b = (enter (.choice alts) p b).bind fun r =>
      if r.2.1.openType then .err
      else match r.2.1.tagNumber with
        | some _ => (from_ r.1 r.2.2.off).bind fun inner => (parseTagAndLength inner).bind fun tal' =>
            if r.2.2.off + tal'.off + tal'.len > r.1.length then .err else decodeAlt alts alts 0 tal'.tag inner
        | none => decodeAlt alts alts 0 r.2.2.tag r.1 := by
  rw [unmarshal.eq_def]; simp only []
  cases enter (.choice alts) p b with
  | err => rfl
  | panic => rfl
  | ok r =>
    obtain ⟨b', p', tal⟩ := r
    refine ite_congr rfl (fun _ => rfl) fun _ => ?_
    cases p'.tagNumber with
    | none => rfl
    | some n =>
      simp only [Res.bind]
      cases from_ b' tal.off with
      | err => rfl
      | panic => rfl
      | ok inner => simp only []; cases parseTagAndLength inner <;> rfl

theorem unmarshal_struct :
    unmarshal (.struct fs) p b = (enter (.struct fs) p b).bind fun r =>
      if fs.length = 0 then .err
      else (from_ r.1 r.2.2.off).bind fun content => (splitTLVs content content.length).bind fun elems =>
        if r.2.1.openType ∧ elems.length > 0 then .err
        else if r.2.1.set then (decodeSet fs fs elems (zeroVals fs)).map .struct
        else (decodeSeq fs elems).map .struct := by
  rw [unmarshal.eq_def]; simp only []
  cases enter (.struct fs) p b with
  | err => rfl
  | panic => rfl
  | ok r =>
    obtain ⟨b', p', tal⟩ := r
    refine ite_congr rfl (fun _ => rfl) fun _ => ?_
    cases from_ b' tal.off with
    | err => rfl
    | panic => rfl
    | ok content =>
      simp only [Res.bind]
      cases splitTLVs content content.length with
      | err => rfl
      | panic => rfl
      | ok elems =>
        simp only []
        refine ite_congr rfl (fun _ => rfl) fun _ => ite_congr rfl (fun _ => ?_) fun _ => ?_
        · cases decodeSet fs fs elems (zeroVals fs) <;> rfl
        · cases decodeSeq fs elems <;> rfl

theorem unmarshal_slice :
    unmarshal (.slice t) p b = (enter (.slice t) p b).bind fun r =>
      (from_ r.1 r.2.2.off).bind fun content => (splitTLVs content content.length).bind fun elems =>
        (decodeElems t { r.2.1 with tagNumber := none } elems).map .list := by
  rw [unmarshal.eq_def]; simp only []
  cases enter (.slice t) p b with
  | err => rfl
  | panic => rfl
  | ok r =>
    obtain ⟨b', p', tal⟩ := r
    simp only [Res.bind]
    cases from_ b' tal.off with
    | err => rfl
    | panic => rfl
    | ok content =>
      simp only []
      cases splitTLVs content content.length with
      | err => rfl
      | panic => rfl
      | ok elems => simp only []; cases decodeElems t { p' with tagNumber := none } elems <;> rfl

theorem decodeAlt_nil : decodeAlt all .nil i tag b = .err := by
  rw [decodeAlt.eq_def]

theorem decodeAlt_cons :
    decodeAlt all (.cons p t r) i tag b =
      if altMatches p t tag then (unmarshal t p b).map fun v => .choice (i + 1) (setAt (zeroVals all) i v)
      else decodeAlt all r (i + 1) tag b := by
  rw [decodeAlt.eq_def]; simp only []; split
  · cases unmarshal t p b <;> rfl
  · rfl

theorem decodeSeq_nil : decodeSeq .nil es = if es = [] then .ok .nil else .err := by
  rw [decodeSeq.eq_def]; cases es <;> rfl

theorem decodeSeq_cons_cons :
    decodeSeq (.cons p t r) ((cls, tag, e) :: es) =
      if memberMatches p t cls tag then Res.map₂ .cons (unmarshal t p e) (decodeSeq r es)
      else (decodeSeq r ((cls, tag, e) :: es)).map (.cons (zeroVal t)) := by
  rw [decodeSeq.eq_def]; simp only []; split
  · cases unmarshal t p e <;> cases decodeSeq r es <;> rfl
  · cases decodeSeq r ((cls, tag, e) :: es) <;> rfl

/-- a member that the first element left does not match, or for which no element is left, is skipped: it keeps its zero value -/
theorem decodeSeq_skip (h : ∀ x, es.head? = some x → memberMatches p t x.1 x.2.1 = false) :
    decodeSeq (.cons p t r) es = (decodeSeq r es).map (.cons (zeroVal t)) := by
  obtain _ | ⟨⟨cls, tag, e⟩, es⟩ := es
  · rw [decodeSeq.eq_def]; simp only []; cases decodeSeq r [] <;> rfl
  · rw [decodeSeq_cons_cons, h _ rfl]; rfl

theorem decodeSetOne_nil :
    decodeSetOne all .nil i cls tag e acc = .err := by rw [decodeSetOne.eq_def]

theorem decodeSetOne_cons :
    decodeSetOne all (.cons p t r) i cls tag e acc =
      if memberMatches p t cls tag then (unmarshal t p e).map (setAt acc i)
      else decodeSetOne all r (i + 1) cls tag e acc := by
  rw [decodeSetOne.eq_def]; simp only []; split
  · cases unmarshal t p e <;> rfl
  · rfl

theorem decodeSet_nil : decodeSet all fs [] acc = .ok acc := by rw [decodeSet.eq_def]

theorem decodeSet_cons :
    decodeSet all fs ((cls, tag, e) :: es) acc = (decodeSetOne all fs 0 cls tag e acc).bind (decodeSet all fs es) := by
  rw [decodeSet.eq_def]; simp only []; cases decodeSetOne all fs 0 cls tag e acc <;> rfl

theorem decodeElems_nil : decodeElems t p [] = .ok .nil := by rw [decodeElems.eq_def]

theorem decodeElems_cons :
    decodeElems t p (x :: es) = Res.map₂ .cons (unmarshal t p x.2.2) (decodeElems t p es) := by
  rw [decodeElems.eq_def]; simp only []; cases unmarshal t p x.2.2 <;> cases decodeElems t p es <;> rfl

end

theorem primValue_no_panic (t : Ty) (c : Bytes) : primValue t c ≠ .panic := by
  cases t with
  | bits => exact parseBitString_no_panic c
  | enum | int => exact Res.map_ne_panic (parseSigned_no_panic c)
  | bool => simp only [primValue]; split <;> nofun
  | _ => intro h; cases h

theorem decodeElems_no_panic {t : Ty} (h : ∀ p b, unmarshal t p b ≠ .panic) (p : Params) :
    ∀ es, decodeElems t p es ≠ .panic
  | [] => by rw [decodeElems_nil]; nofun
  | x :: es => by rw [decodeElems_cons]; exact Res.map₂_ne_panic (h p _) (decodeElems_no_panic h p es)

theorem decodeSet_no_panic {all fs : Fields} (h : ∀ i cls tag e acc, decodeSetOne all fs i cls tag e acc ≠ .panic) :
    ∀ (es : List Elem) (acc : Vals), decodeSet all fs es acc ≠ .panic
  | [], acc => by rw [decodeSet_nil]; nofun
  | (cls, tag, e) :: es, acc => by
    rw [decodeSet_cons]; exact Res.bind_ne_panic (h _ _ _ _ _) fun a _ => decodeSet_no_panic h es a

mutual
theorem unmarshal_no_panic (t : Ty) (p : Params) (b : Bytes) : unmarshal t p b ≠ .panic := by
  have he := fun t => (enter_spec t p b).1
  cases t with
  | ptr t => rw [unmarshal_ptr]; exact unmarshal_no_panic t p b
  | wrap t => rw [unmarshal_wrap]; exact Res.bind_ne_panic (he _) fun r _ => unmarshal_no_panic t _ _
  | choice alts =>
    rw [unmarshal_choice]
    refine Res.bind_ne_panic (he _) fun r hr => Res.ite_ne_panic nofun ?_
    split
    · exact Res.bind_ne_panic (from_enter_no_panic hr) fun inner _ =>
        Res.bind_ne_panic (parseTagAndLength_no_panic inner) fun tal' _ =>
        Res.ite_ne_panic nofun (decodeAlt_no_panic alts alts _ _ _)
    · exact decodeAlt_no_panic alts alts _ _ _
  | struct fs =>
    rw [unmarshal_struct]
    exact Res.bind_ne_panic (he _) fun r hr => Res.ite_ne_panic nofun <|
      Res.bind_ne_panic (from_enter_no_panic hr) fun c _ => Res.bind_ne_panic (splitTLVs_no_panic _ c) fun es _ =>
      Res.ite_ne_panic nofun <| Res.ite_ne_panic
        (Res.map_ne_panic (decodeSet_no_panic (decodeSetOne_no_panic fs fs) es _))
        (Res.map_ne_panic (decodeSeq_no_panic fs es))
  | slice t =>
    rw [unmarshal_slice]
    refine Res.bind_ne_panic (he _) fun r hr => Res.bind_ne_panic (from_enter_no_panic hr) fun c _ =>
      Res.bind_ne_panic (splitTLVs_no_panic _ c) fun es _ =>
      Res.map_ne_panic (decodeElems_no_panic (fun p b => unmarshal_no_panic t p b) _ es)
  | _ =>
    rw [unmarshal_prim _ p b rfl]
    exact Res.bind_ne_panic (he _) fun r _ => primValue_no_panic _ _
theorem decodeAlt_no_panic (all : Fields) : ∀ (fs : Fields) (i tag : Nat) (b : Bytes), decodeAlt all fs i tag b ≠ .panic
  | .nil, i, tag, b => by rw [decodeAlt_nil]; nofun
  | .cons p t r, i, tag, b => by
    rw [decodeAlt_cons]
    exact Res.ite_ne_panic (Res.map_ne_panic (unmarshal_no_panic t p b)) (decodeAlt_no_panic all r _ _ _)
theorem decodeSeq_no_panic : ∀ (fs : Fields) (es : List Elem), decodeSeq fs es ≠ .panic
  | .nil, es => by rw [decodeSeq_nil]; split <;> nofun
  | .cons p t r, [] => by rw [decodeSeq_skip (es := []) nofun]; exact Res.map_ne_panic (decodeSeq_no_panic r [])
  | .cons p t r, (cls, tag, e) :: es => by
    rw [decodeSeq_cons_cons]
    exact Res.ite_ne_panic (Res.map₂_ne_panic (unmarshal_no_panic t p e) (decodeSeq_no_panic r es))
      (Res.map_ne_panic (decodeSeq_no_panic r _))
theorem decodeSetOne_no_panic (all : Fields) : ∀ (fs : Fields) (i cls tag : Nat) (e : Bytes) (acc : Vals),
    decodeSetOne all fs i cls tag e acc ≠ .panic
  | .nil, _, _, _, _, _ => by rw [decodeSetOne_nil]; nofun
  | .cons p t r, i, cls, tag, e, acc => by
    rw [decodeSetOne_cons]
    exact Res.ite_ne_panic (Res.map_ne_panic (unmarshal_no_panic t p e)) (decodeSetOne_no_panic all r _ _ _ _ _)
end

end Chf.Ber
