import ChfVerif.Model.Diameter
import ChfVerif.Gen.Diameter
/- checking a regenerated table by kernel evaluation: compare each pair once, and names as numbers -/
namespace Chf

/-- `r` between each member of a list and the later ones, as a Boolean: much cheaper for the kernel to evaluate than
    the `Decidable` instance of `List.Pairwise` over a relation in `Prop` -/
def pairwiseB {α} (r : α → α → Bool) : List α → Bool
  | [] => true
  | a :: l => l.all (r a) && pairwiseB r l

theorem pairwise_of_pairwiseB {α} {r : α → α → Bool} : ∀ {l : List α}, pairwiseB r l = true → l.Pairwise (r · · = true)
  | [], _ => .nil
  | a :: l, h => by
    simp only [pairwiseB, Bool.and_eq_true, List.all_eq_true] at h
    exact .cons h.1 (pairwise_of_pairwiseB h.2)

theorem forall_mem_of_pairwise {α} {R : α → α → Prop} {l : List α} (hr : ∀ a, R a a) (hs : ∀ a b, R a b → R b a)
    (h : l.Pairwise R) : ∀ a ∈ l, ∀ b ∈ l, R a b :=
  List.Pairwise.forall_of_forall_of_flip (fun a _ => hr a) h (h.imp (hs _ _))

/-- A string as a number (bijective base 256 of its UTF-8 octets).  The kernel compares two numerals in one step, but turns
    a string literal into its octets again at every comparison it takes part in: comparing n names with one another costs
    n conversions through `strKey`, n² without. -/
def strKey (s : String) : Nat := s.toByteArray.data.toList.foldr (fun b n => n * 256 + (b.toNat + 1)) 0

theorem strKey_inj {s t : String} (h : strKey s = strKey t) : s = t := by
  have key : ∀ l₁ l₂ : List UInt8, l₁.foldr (fun b n => n * 256 + (b.toNat + 1)) 0 =
      l₂.foldr (fun b n => n * 256 + (b.toNat + 1)) 0 → l₁ = l₂ := by
    intro l₁
    induction l₁ with
    | nil => intro l₂ h; cases l₂ with
      | nil => rfl
      | cons b r => simp only [List.foldr] at h; omega
    | cons a r ih => intro l₂ h; cases l₂ with
      | nil => simp only [List.foldr] at h; omega
      | cons b r' =>
        simp only [List.foldr] at h
        have ha := a.toNat_lt; have hb := b.toNat_lt
        rw [UInt8.toNat_inj.mp (show a.toNat = b.toNat by omega), ih r' (by omega)]
  exact String.toByteArray_inj.mp (ByteArray.ext (Array.ext' (key _ _ h)))

open Diameter

/-- what `dictAvps_consistent` says of two definitions, over numbers only (`Nat.beq` on numerals is one step) -/
def avpAgree (a b : AvpDef) : Bool :=
  (!(Nat.beq a.app b.app && Nat.beq a.code b.code && Nat.beq a.vendor b.vendor) || Nat.beq (strKey a.name) (strKey b.name)) &&
  (!Nat.beq (strKey a.name) (strKey b.name) || (Nat.beq a.code b.code && Nat.beq (strKey a.type) (strKey b.type)))

/-- the relation is reflexive and symmetric, so the kernel evaluates it on each pair once, as `avpAgree` -/
theorem dictAvps_consistent : ∀ a ∈ Gen.dictAvps, ∀ b ∈ Gen.dictAvps,
    ((a.app == b.app && a.code == b.code && a.vendor == b.vendor) = true → a.name = b.name) ∧
    (a.name = b.name → a.code = b.code ∧ a.type = b.type) := by
  refine forall_mem_of_pairwise (fun _ => ⟨fun _ => rfl, fun _ => ⟨rfl, rfl⟩⟩) (fun a b h => ?_)
    ((pairwise_of_pairwiseB (r := avpAgree) (by decide +kernel)).imp fun {a b} h => ?_)
  · rw [BEq.comm (a := b.app), BEq.comm (a := b.code), BEq.comm (a := b.vendor)]
    exact ⟨fun hk => (h.1 hk).symm, fun hn => ⟨(h.2 hn.symm).1.symm, (h.2 hn.symm).2.symm⟩⟩
  · simp only [avpAgree, Bool.and_eq_true, Bool.or_eq_true, Bool.not_eq_true', Bool.eq_false_iff, ne_eq, Nat.beq_eq,
      beq_iff_eq] at h ⊢
    exact ⟨fun hk => strKey_inj (h.1.resolve_left (not_not_intro hk)),
      fun hn => (h.2.resolve_left (not_not_intro (congrArg strKey hn))).imp id strKey_inj⟩

end Chf
