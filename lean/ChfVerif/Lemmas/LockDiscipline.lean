import ChfVerif.Model.LockDiscipline
/- lemmas about the four lock-discipline models, in the order of Model/LockDiscipline.lean: the rest of a function around a
   lock site; propagation of "relies on the caller's mutex" along call chains, and a cheaper way to evaluate it; mutual
   exclusion of guarded programs under every scheduler; the sequence counter -/
namespace Chf.LockDiscipline

/-- The rest of a function around a lock site - no Lock and no bare Unlock of the mutex, guarded unlocks only where they
    keep `P` - is left through `finish` in a state with `P`, whichever of its statements panic. -/
theorem exec_rest {P : M → Prop} {rest : List Stmt}
    (hr : ∀ s ∈ rest, plain s = true ∨ (s = .guardedUnlock ∧ ∀ m, P m → P (doGuarded m))) :
    ∀ (i : Nat) (p : Nat → Bool) (m : M), P m → ∃ m', P m' ∧ exec rest i p m = finish m' := by
  induction rest with
  | nil => exact fun _ _ m h => ⟨m, h, rfl⟩
  | cons s r ih =>
    intro i p m h
    have ih := ih fun s hs => hr s (List.mem_cons_of_mem _ hs)
    rcases hr s (List.mem_cons_self ..) with hs | ⟨rfl, hg⟩
    · cases s with
      | safe => exact ih _ p m h
      | risky =>
        simp only [exec]
        split
        · exact ⟨m, h, rfl⟩
        · exact ih _ p m h
      | ret => exact ⟨m, h, rfl⟩
      | _ => cases hs
    · exact ih _ p _ (hg m h)

theorem needsIter_prefix (cs : List CallFact) : ∀ (n : Nat) (cur : List Nat), cur <+: needsIter n cs cur
  | 0, cur => List.prefix_refl cur
  | n + 1, cur => (List.prefix_append cur _).trans (needsIter_prefix cs n (needsStep cs cur))

theorem needs0_prefix (fs : List FnFact) (cs : List CallFact) : needs0 fs <+: needsLock fs cs :=
  needsIter_prefix cs _ _

/-- if `n` is closed under "called without the mutex by", a chain of such calls that ends in `n` starts in `n` -/
theorem unheldPath_closed {cs : List CallFact} {n : List Nat} (hc : closedUnder cs n = true) {a b : Nat}
    (hp : UnheldPath cs a b) (hb : b ∈ n) : a ∈ n := by
  induction hp with
  | refl a => exact hb
  | step hmem _ ih => simpa [ih hb] using List.all_eq_true.mp hc _ hmem

/-- `stateAccessOK` read as a statement about call chains: a relying function is in `needsLock` from the start, a chain
    of calls made without the mutex would put the root there too, and the check says no root is -/
theorem stateAccessOK_sound {fs : List FnFact} {cs : List CallFact} (hok : stateAccessOK fs cs = true) {r g : FnFact}
    (hr : r ∈ fs) (hg : g ∈ fs) (hroot : r.root = true) (hrel : g.relies = true) : ¬ UnheldPath cs r.id g.id := by
  intro hp
  simp only [stateAccessOK, Bool.and_eq_true] at hok
  have hg' : g.id ∈ needsLock fs cs :=
    (needs0_prefix fs cs).subset (List.mem_map.2 ⟨g, List.mem_filter.2 ⟨hg, hrel⟩, rfl⟩)
  have := List.all_eq_true.mp hok.2 r hr
  simp [hroot, unheldPath_closed hok.1 hp hg'] at this

/-- `needsIter` that stops at the first iteration that adds nothing: the chains of calls are a few functions long, the
    fuel of `needsLock` is the number of functions -/
def needsFix : Nat → List CallFact → List Nat → List Nat
  | 0, _, cur => cur
  | n + 1, cs, cur => if (needsStep cs cur).length = cur.length then cur else needsFix n cs (needsStep cs cur)

theorem needsIter_of_fix {cs : List CallFact} {cur : List Nat} (h : needsStep cs cur = cur) : ∀ n, needsIter n cs cur = cur
  | 0 => rfl
  | n + 1 => by rw [needsIter, h]; exact needsIter_of_fix h n

theorem needsFix_eq (cs : List CallFact) : ∀ (n : Nat) (cur : List Nat), needsFix n cs cur = needsIter n cs cur
  | 0, _ => rfl
  | n + 1, cur => by
    rw [needsFix]
    split
    next h =>
      -- `needsStep cs cur` is `cur ++ _`: of the same length only if nothing was added
      have : needsStep cs cur = cur := by
        unfold needsStep at h ⊢
        rw [List.length_append] at h
        exact List.append_right_eq_self.mpr (List.eq_nil_of_length_eq_zero (by omega))
      exact (needsIter_of_fix this (n + 1)).symm
    next => exact needsFix_eq cs n _

theorem stateAccessOK_eq (fs : List FnFact) (cs : List CallFact) :
    stateAccessOK fs cs = (closedUnder cs (needsFix fs.length cs (needs0 fs)) &&
      fs.all fun f => !(f.root && (needsFix fs.length cs (needs0 fs)).contains f.id)) := by
  rw [needsFix_eq]; rfl

/-- the invariant of the mutual-exclusion model: every thread's remaining program keeps the discipline, given whether
    that thread is the holder -/
def Inv (s : Sys) : Prop := ∀ i, guarded (decide (s.holder = some i)) (s.prog i) = true

/-- every logged access to the shared state was made by the thread that held the lock at that moment -/
def LogOK (s : Sys) : Prop := ∀ e ∈ s.log, e.2 = some e.1

/-- thread `t` moves on to `r` and the holder becomes `h'`, which changes "is the holder" for no other thread -/
theorem inv_setProg {s : Sys} (hi : Inv s) {t : Nat} {r : List Ev} {h' : Option Nat}
    (ht : guarded (decide (h' = some t)) r = true)
    (ho : ∀ i, i ≠ t → decide (h' = some i) = decide (s.holder = some i)) :
    Inv { s with holder := h', prog := s.setProg t r } := by
  intro i
  by_cases hit : i = t
  · subst hit; simpa [Sys.setProg] using ht
  · simp only [Sys.setProg, if_neg hit, ho i hit]; exact hi i

theorem step_inv (s : Sys) (t : Nat) (hi : Inv s) (hl : LogOK s) : Inv (s.step t) ∧ LogOK (s.step t) := by
  have ht := hi t
  unfold Sys.step
  cases hp : s.prog t with
  | nil => exact ⟨hi, hl⟩
  | cons e r =>
    rw [hp] at ht
    cases e with
    | lock =>
      simp only
      split
      next hn =>
        simp only [guarded, hn, Bool.and_eq_true] at ht
        exact ⟨inv_setProg hi (by simpa using ht.2) fun i hit => by simp [hn, Ne.symm hit], hl⟩
      next => exact ⟨hi, hl⟩
    | unlock =>
      simp only [guarded, Bool.and_eq_true, decide_eq_true_eq] at ht
      exact ⟨inv_setProg hi (by simpa using ht.2) fun i hit => by simp [ht.1, Ne.symm hit], hl⟩
    | acc =>
      simp only [guarded, Bool.and_eq_true, decide_eq_true_eq] at ht
      exact ⟨inv_setProg hi (by simpa [ht.1] using ht.2) fun _ _ => rfl, List.forall_mem_cons.2 ⟨ht.1, hl⟩⟩

theorem run_inv (sched : List Nat) : ∀ s : Sys, Inv s → LogOK s → Inv (s.run sched) ∧ LogOK (s.run sched) := by
  induction sched with
  | nil => intro s hi hl; exact ⟨hi, hl⟩
  | cons t ts ih =>
    intro s hi hl
    obtain ⟨hi', hl'⟩ := step_inv s t hi hl
    exact ih _ hi' hl'

/-- without `giveBack`, every number handed out is below the counter and no number is handed out twice -/
theorem counter_run (evs : List CEv) (h : evs.all (· == .take) = true) :
    ∀ s : CSt, (∀ n ∈ s.taken, n < s.ctr) → s.taken.Nodup →
      (∀ n ∈ (s.run evs).taken, n < (s.run evs).ctr) ∧ (s.run evs).taken.Nodup := by
  induction evs with
  | nil => intro s h1 h2; exact ⟨h1, h2⟩
  | cons e r ih =>
    intro s h1 h2
    simp only [List.all_cons, Bool.and_eq_true, beq_iff_eq] at h
    obtain ⟨he, hr⟩ := h
    subst he
    -- the number handed out is the counter itself: above all earlier ones, below the advanced counter
    apply ih hr
    · exact List.forall_mem_cons.2 ⟨Nat.lt_succ_self _, fun n hn => Nat.lt_succ_of_lt (h1 n hn)⟩
    · exact List.nodup_cons.2 ⟨fun hm => Nat.lt_irrefl _ (h1 _ hm), h2⟩

end Chf.LockDiscipline
