import ChfVerif.Spec.X690
import ChfVerif.Spec.BerSpec
import ChfVerif.Lemmas.BerRes
/-
  What `marshal` (Model/Ber.lean) and the reference `encode` (Spec/X690.lean) do, one lemma per shape of
  (type, value), and the induction over those shapes.  Both encoders walk a pair in the same way:

    pointer / Value-List wrapper   transparent
    CHOICE                         the selected alternative, inside a context tag when one is declared
    SEQUENCE / SET, SEQUENCE OF    the members / elements one after the other, tagged as a whole
    anything else (`Flat`)         no recursion: `leaf` gives the universal tag and the contents, or there is no encoding

  Every proof about the encoders goes through these lemmas and `shape_induct`; none unfolds the
  well-founded definitions again.  The last section turns the equations of `marshal` into rules for a value that
  encodes, one per kind of type, from which the closed form of a concrete record is put together (Lemmas/RecordBer.lean).
-/
namespace Chf.X690
open Chf Chf.Ber

def cat : Option Bytes → Option Bytes → Option Bytes
  | some a, some b => some (a ++ b)
  | _, _ => none

theorem isSome_cat (a b : Option Bytes) : (cat a b).isSome = (a.isSome && b.isSome) := by
  cases a <;> cases b <;> rfl

theorem cat_eq_some {a b : Option Bytes} {c : Bytes} : cat a b = some c ↔ ∃ x y, a = some x ∧ b = some y ∧ x ++ y = c := by
  cases a <;> cases b <;> simp [cat]

end Chf.X690

namespace Chf.Ber
open Chf Chf.X690

/-- the pairs on which neither encoder recurses -/
def Flat : Ty → Val → Bool
  | .ptr _, v => isNilVal v
  | .wrap _, _ => false
  | .choice _, .choice _ _ => false
  | .struct _, .struct _ => false
  | .slice _, .list _ => false
  | _, _ => true

/-- constructed bit, universal tag and contents of a value that is encoded without recursion.  The two encoders differ in
    one thing here, the contents octets of an INTEGER / ENUMERATED (`intBytes`, `integerContents`): those are a parameter -/
structure Leaf where
  constructed : Bool
  tag : Nat
  contents : (Int → Bytes) → Bytes

def leaf : Ty → Params → Val → Option Leaf
  | .bool, _, .bool b => some ⟨false, 1, fun _ => [if b then 255 else 0]⟩
  | .int _, _, .int i => some ⟨false, 2, fun ic => ic i⟩
  | .enum, _, .int i => some ⟨false, 10, fun ic => ic i⟩
  | .bits, _, .bits b n => some ⟨false, 3, fun _ => ((8 - n % 8) % 8) :: b⟩
  | .octets, _, .bytes b => some ⟨false, 4, fun _ => b⟩
  | .octets, _, .nil => some ⟨false, 4, fun _ => []⟩
  | .null, _, .null _ => some ⟨false, 5, fun _ => []⟩
  | .str d, p, .str b => some ⟨false, stringTagOf p d, fun _ => b⟩
  | .slice _, p, .nil => some ⟨true, seqTag p, fun _ => []⟩
  | _, _, _ => none

section
variable {p : Params} {t : Ty} {v : Val} {vs : Vals} {fs alts r : Fields} {n : Nat} {k : Int} {l : Leaf}

theorem marshal_flat (h : Flat t v = true) :
    marshal t p v = match leaf t p v with
      | some l => .ok (finish p l.constructed l.tag (l.contents intBytes))
      | none => .err := by
  rw [marshal.eq_def]
  cases t <;> cases v <;> first | rfl | exact Bool.noConfusion h

/-- OBJECT IDENTIFIER has no encoding, whatever the value -/
theorem marshal_oid : marshal .oid p v = .err := by
  rw [marshal_flat (by cases v <;> rfl)]; cases v <;> rfl

theorem unused_eq : (8 - n % 8) % 8 = if n % 8 = 0 then 0 else 8 - n % 8 := by
  split <;> omega

theorem stringTag_eq (d : Nat) : stringTagOf p d = if p.stringType = 0 then d else p.stringType := by
  unfold stringTagOf; split <;> simp_all

theorem encode_flat (h : Flat t v = true) :
    encode t p v = (leaf t p v).map fun l => tagged p l.constructed l.tag (l.contents integerContents) := by
  rw [encode.eq_def]
  cases t <;> cases v <;> first | rfl | exact Bool.noConfusion h | skip
  -- the unused-bits octet and the character-string tag are spelt differently on the two sides
  · exact congrArg (fun u => some (tagged p false 3 (u :: _))) unused_eq.symm
  · exact congrArg (fun g => some (tagged p false g _)) (stringTag_eq _).symm

theorem stringTag_lt (d : Nat) (hp : paramsOK p = true) (hd : d < 18446744073709551616) :
    stringTagOf p d < 18446744073709551616 := by
  unfold stringTagOf paramsOK at *
  simp only [Bool.and_eq_true, decide_eq_true_eq] at hp
  split <;> omega

theorem seqTag_lt63 (q : Params) : seqTag q < 9223372036854775808 := by unfold seqTag; split <;> decide

theorem seqTag_lt : seqTag p < 18446744073709551616 := Nat.lt_trans (seqTag_lt63 p) (by decide)

theorem leaf_tag_lt (h : leaf t p v = some l)
    (ht : tagsOK t = true) (hp : paramsOK p = true) : l.tag < 18446744073709551616 := by
  unfold leaf at h
  split at h <;> cases h <;> first | (dsimp only; decide) | exact seqTag_lt | exact stringTag_lt _ hp (by simpa [tagsOK] using ht)

theorem leaf_contents (h : leaf t p v = some l) {f g : Int → Bytes}
    (hfg : ∀ i, v = .int i → f i = g i) : l.contents f = l.contents g := by
  unfold leaf at h
  split at h <;> cases h <;> first | rfl | exact hfg _ rfl

theorem leaf_expectedTag (h : leaf t p v = some l) : expectedTag p (underlying t) = some l.tag := by
  unfold leaf at h
  split at h <;> cases h <;> rfl

theorem marshal_ptr (h : v ≠ .nil) : marshal (.ptr t) p v = marshal t p v := by
  rw [marshal.eq_def]; cases v <;> first | exact absurd rfl h | rfl

theorem marshal_wrap : marshal (.wrap t) p v = marshal t p v := by rw [marshal.eq_def]

theorem marshalAlt_zero :
    marshalAlt (.cons p t r) (.cons v vs) 0 = marshal t p v := by rw [marshalAlt.eq_def]

theorem marshalAlt_succ :
    marshalAlt (.cons p t r) (.cons v vs) (n + 1) = marshalAlt r vs n := by rw [marshalAlt.eq_def]

theorem marshalAlt_nil (h : fs = .nil ∨ vs = .nil) : marshalAlt fs vs n = .err := by
  rw [marshalAlt.eq_def]; rcases h with rfl | rfl
  · rfl
  · cases fs <;> rfl

theorem marshalAlt_err_of_ge : ∀ (fs : Fields) (vs : Vals) (n : Nat), fs.length ≤ n → marshalAlt fs vs n = .err
  | .nil, _, _, _ => marshalAlt_nil (.inl rfl)
  | .cons _ _ _, .nil, _, _ => marshalAlt_nil (.inr rfl)
  | .cons _ _ _, .cons _ _, 0, h => by simp [Fields.length] at h
  | .cons _ _ r, .cons _ vs, n + 1, h => by
    rw [marshalAlt_succ]; exact marshalAlt_err_of_ge r vs n (Nat.le_of_succ_le_succ h)

/-- the range check on `Present` adds nothing: an alternative that does not exist is an error anyway -/
theorem marshal_choice :
    marshal (.choice alts) p (.choice k vs) =
      if k ≤ 0 ∨ p.openType = true then .err
      else match p.tagNumber with
        | none => marshalAlt alts vs (k.toNat - 1)
        | some n => (marshalAlt alts vs (k.toNat - 1)).map (tlv 2 true n) := by
  rw [marshal.eq_def]; simp only []
  by_cases h1 : k ≤ 0
  · simp [h1]
  by_cases h3 : p.openType = true
  · simp [h1, h3]
  rw [if_neg h1, if_neg (not_or.mpr ⟨h1, h3⟩)]
  by_cases h2 : k.toNat ≥ alts.length + 1
  · rw [if_pos h2, marshalAlt_err_of_ge alts vs _ (by omega)]; cases p.tagNumber <;> rfl
  · rw [if_neg h2, if_neg h3]
    cases p.tagNumber with
    | none => rfl
    | some n => cases marshalAlt alts vs (k.toNat - 1) <;> rfl

theorem marshal_struct :
    marshal (.struct fs) p (.struct vs) =
      if fs.length = 0 then .err else (marshalFields fs vs).map (finish p true (seqTag p)) := by
  rw [marshal.eq_def]; simp only []; split
  · rfl
  · cases marshalFields fs vs <;> rfl

theorem marshal_list :
    marshal (.slice t) p (.list vs) =
      (marshalElems t { p with tagNumber := none } vs).map (finish p true (seqTag p)) := by
  rw [marshal.eq_def]; simp only []; cases marshalElems t { p with tagNumber := none } vs <;> rfl

theorem marshalElems_nil : marshalElems t p .nil = .ok [] := by rw [marshalElems.eq_def]

theorem marshalElems_cons :
    marshalElems t p (.cons v vs) = (marshal t p v).cat (marshalElems t p vs) := by
  rw [marshalElems.eq_def]; simp only []; cases marshal t p v <;> cases marshalElems t p vs <;> rfl

theorem marshalFields_nil : marshalFields .nil vs = .ok [] := by rw [marshalFields.eq_def]

theorem marshalFields_short : marshalFields (.cons p t r) .nil = .err := by
  rw [marshalFields.eq_def]

/-- a member: OPTIONAL on a kind without nil is the IsNil panic; an absent OPTIONAL member is left out -/
theorem marshalFields_cons :
    marshalFields (.cons p t r) (.cons v vs) =
      if p.optional = true ∧ nilable t = false then .panic
      else if p.optional = true ∧ isNilVal v = true then marshalFields r vs
      else if p.openType = true then .err
      else (marshal t p v).cat (marshalFields r vs) := by
  rw [marshalFields.eq_def]
  simp only [Bool.not_eq_true]
  cases marshal t p v <;> cases marshalFields r vs <;> rfl

theorem encode_ptr (h : v ≠ .nil) : encode (.ptr t) p v = encode t p v := by
  rw [encode.eq_def]; cases v <;> first | exact absurd rfl h | rfl

theorem encode_wrap : encode (.wrap t) p v = encode t p v := by rw [encode.eq_def]

theorem encodeAlt_zero :
    encodeAlt (.cons p t r) (.cons v vs) 0 = encode t p v := by rw [encodeAlt.eq_def]

theorem encodeAlt_succ :
    encodeAlt (.cons p t r) (.cons v vs) (n + 1) = encodeAlt r vs n := by rw [encodeAlt.eq_def]

theorem encodeAlt_nil (h : fs = .nil ∨ vs = .nil) : encodeAlt fs vs n = none := by
  rw [encodeAlt.eq_def]; rcases h with rfl | rfl
  · rfl
  · cases fs <;> rfl

theorem encode_choice :
    encode (.choice alts) p (.choice k vs) =
      if k ≤ 0 ∨ p.openType = true then none
      else match p.tagNumber with
        | none => encodeAlt alts vs (k.toNat - 1)
        | some n => (encodeAlt alts vs (k.toNat - 1)).map (element 2 true n) := by
  rw [encode.eq_def]; simp only []; split
  · rfl
  · cases encodeAlt alts vs (k.toNat - 1) <;> cases p.tagNumber <;> rfl

theorem encode_struct :
    encode (.struct fs) p (.struct vs) =
      if fs.length = 0 then none else (encodeMembers fs vs).map (tagged p true (seqTag p)) := by
  rw [encode.eq_def]; simp only []; split
  · rfl
  · cases encodeMembers fs vs <;> rfl

theorem encode_list :
    encode (.slice t) p (.list vs) =
      (encodeList t { p with tagNumber := none } vs).map (tagged p true (seqTag p)) := by
  rw [encode.eq_def]; simp only []; cases encodeList t { p with tagNumber := none } vs <;> rfl

theorem encodeList_nil : encodeList t p .nil = some [] := by rw [encodeList.eq_def]

theorem encodeList_cons :
    encodeList t p (.cons v vs) = X690.cat (encode t p v) (encodeList t p vs) := by
  rw [encodeList.eq_def]; simp only []; cases encode t p v <;> cases encodeList t p vs <;> rfl

theorem encodeMembers_nil : encodeMembers .nil vs = some [] := by rw [encodeMembers.eq_def]

theorem encodeMembers_short : encodeMembers (.cons p t r) .nil = none := by
  rw [encodeMembers.eq_def]

theorem encodeMembers_cons :
    encodeMembers (.cons p t r) (.cons v vs) =
      if p.optional = true ∧ isNilVal v = true then encodeMembers r vs
      else if p.openType = true then none
      else X690.cat (encode t p v) (encodeMembers r vs) := by
  rw [encodeMembers.eq_def]; simp only []; cases encode t p v <;> cases encodeMembers r vs <;> rfl

end

theorem shape_elems {P : Ty → Params → Val → Prop} {PL : Ty → Params → Vals → Prop} {t : Ty} {p : Params}
    (elemsNil : PL t p .nil) (elemsCons : ∀ v vs, P t p v → PL t p vs → PL t p (.cons v vs))
    (h : ∀ v, P t p v) : ∀ vs, PL t p vs
  | .nil => elemsNil
  | .cons v vs => elemsCons v vs (h v) (shape_elems elemsNil elemsCons h vs)

/-- what is to be shown of each shape, for a statement `P` about values, `PL` about SEQUENCE OF elements, `PM` about
    SEQUENCE / SET members and `PA` about the selected alternative of a CHOICE -/
structure ShapeCases (P : Ty → Params → Val → Prop) (PL : Ty → Params → Vals → Prop)
    (PM : Fields → Vals → Prop) (PA : Fields → Vals → Nat → Prop) : Prop where
  flat : ∀ t p v, Flat t v = true → P t p v
  ptr : ∀ t p v, v ≠ .nil → P t p v → P (.ptr t) p v
  wrap : ∀ t p v, P t p v → P (.wrap t) p v
  choice : ∀ alts p k vs, PA alts vs (k.toNat - 1) → P (.choice alts) p (.choice k vs)
  struct : ∀ fs p vs, PM fs vs → P (.struct fs) p (.struct vs)
  list : ∀ t p vs, PL t { p with tagNumber := none } vs → P (.slice t) p (.list vs)
  elemsNil : ∀ t p, PL t p .nil
  elemsCons : ∀ t p v vs, P t p v → PL t p vs → PL t p (.cons v vs)
  membersNil : ∀ vs, PM .nil vs
  membersShort : ∀ p t r, PM (.cons p t r) .nil
  membersCons : ∀ p t r v vs, P t p v → PM r vs → PM (.cons p t r) (.cons v vs)
  altNil : ∀ fs vs n, fs = .nil ∨ vs = .nil → PA fs vs n
  altZero : ∀ p t r v vs, P t p v → PA (.cons p t r) (.cons v vs) 0
  altSucc : ∀ p t r v vs n, PA r vs n → PA (.cons p t r) (.cons v vs) (n + 1)

section
variable {P : Ty → Params → Val → Prop} {PL : Ty → Params → Vals → Prop}
  {PM : Fields → Vals → Prop} {PA : Fields → Vals → Nat → Prop} (h : ShapeCases P PL PM PA)
include h

-- structural in the type alone: the value only selects the case
mutual
theorem shape_val (t : Ty) (p : Params) (v : Val) : P t p v := by
  cases t with
  | ptr t =>
    by_cases hv : v = .nil
    · exact h.flat _ _ _ (by rw [hv]; rfl)
    · exact h.ptr t p v hv (shape_val t p v)
  | wrap t => exact h.wrap t p v (shape_val t p v)
  | choice alts =>
    cases v with
    | choice k vs => exact h.choice alts p k vs (shape_alt alts vs _)
    | _ => exact h.flat _ _ _ rfl
  | struct fs =>
    cases v with
    | struct vs => exact h.struct fs p vs (shape_members fs vs)
    | _ => exact h.flat _ _ _ rfl
  | slice t =>
    cases v with
    | list vs => exact h.list t p vs (shape_elems (h.elemsNil t _) (h.elemsCons t _) (fun v => shape_val t _ v) vs)
    | _ => exact h.flat _ _ _ rfl
  | _ => exact h.flat _ _ _ (by cases v <;> rfl)
theorem shape_members : ∀ (fs : Fields) (vs : Vals), PM fs vs
  | .nil, vs => h.membersNil vs
  | .cons p t r, .nil => h.membersShort p t r
  | .cons p t r, .cons v vs => h.membersCons p t r v vs (shape_val t p v) (shape_members r vs)
theorem shape_alt : ∀ (fs : Fields) (vs : Vals) (n : Nat), PA fs vs n
  | .nil, _, _ => h.altNil _ _ _ (.inl rfl)
  | .cons _ _ _, .nil, _ => h.altNil _ _ _ (.inr rfl)
  | .cons p t r, .cons v vs, 0 => h.altZero p t r v vs (shape_val t p v)
  | .cons p t r, .cons v vs, n + 1 => h.altSucc p t r v vs n (shape_alt r vs n)
end

theorem shape_induct : (∀ t p v, P t p v) ∧ (∀ t p vs, PL t p vs) ∧ (∀ fs vs, PM fs vs) ∧ (∀ fs vs n, PA fs vs n) :=
  ⟨shape_val h, fun t p => shape_elems (h.elemsNil t p) (h.elemsCons t p) (shape_val h t p), shape_members h, shape_alt h⟩

end

/-! ### a value that encodes: one rule per kind of type

  A proof that a concrete value of a concrete (regenerated) type marshals to a closed form is a chain of these rules,
  one step per member; the table enters through `rfl` side conditions such as `underlying Gen.T_RecordType = .int 64`. -/

section
variable {t u : Ty} {p q : Params} {v : Val} {vs : Vals} {fs alts r : Fields} {a b c : Bytes} {n : Nat}

theorem marshal_underlying (hv : v ≠ .nil) : ∀ t, marshal t p v = marshal (underlying t) p v
  | .ptr t => by rw [marshal_ptr hv, underlying, marshal_underlying hv t]
  | .wrap t => by rw [marshal_wrap, underlying, marshal_underlying hv t]
  | .bool | .int _ | .enum | .octets | .bits | .null | .oid | .str _ | .slice _ | .choice _ | .struct _
  | .unsupported => rfl

theorem marshal_int {w : Nat} (i : Int) (h : underlying t = .int w) :
    marshal t p (.int i) = .ok (finish p false 2 (intBytes i)) := by
  rw [marshal_underlying (by simp), h]; exact marshal_flat rfl

theorem marshal_enum (i : Int) (h : underlying t = .enum) :
    marshal t p (.int i) = .ok (finish p false 10 (intBytes i)) := by
  rw [marshal_underlying (by simp), h]; exact marshal_flat rfl

theorem marshal_octets (b : Bytes) (h : underlying t = .octets) : marshal t p (.bytes b) = .ok (finish p false 4 b) := by
  rw [marshal_underlying (by simp), h]; exact marshal_flat rfl

theorem marshal_str {d : Nat} (b : Bytes) (h : underlying t = .str d) :
    marshal t p (.str b) = .ok (finish p false (stringTagOf p d) b) := by
  rw [marshal_underlying (by simp), h]; exact marshal_flat rfl

theorem marshal_struct_ok (h : underlying t = .struct fs) (hl : fs.length ≠ 0) (hc : marshalFields fs vs = .ok c) :
    marshal t p (.struct vs) = .ok (finish p true (seqTag p) c) := by
  rw [marshal_underlying (by simp), h, marshal_struct, if_neg hl, hc]; rfl

theorem marshal_list_ok (h : underlying t = .slice u) (hc : marshalElems u { p with tagNumber := none } vs = .ok c) :
    marshal t p (.list vs) = .ok (finish p true (seqTag p) c) := by
  rw [marshal_underlying (by simp), h, marshal_list, hc]; rfl

theorem marshalAlt_eq : ∀ {alts : Fields} {vs : Vals} {n : Nat},
    fieldAt alts n = some (q, u) → valAt vs n = some v → marshalAlt alts vs n = marshal u q v
  | .cons _ _ _, .cons _ _, 0, hf, hv => by
    simp only [fieldAt, valAt, Option.some.injEq, Prod.mk.injEq] at hf hv
    rw [marshalAlt_zero, hf.1, hf.2, hv]
  | .cons _ _ r, .cons _ vs, n + 1, hf, hv => by
    rw [marshalAlt_succ]; exact marshalAlt_eq (alts := r) hf hv

/-- `o` is a variable so that `hn`, like the other side conditions, is closed by `rfl` on a concrete parameter set -/
theorem marshal_choice_ok {k : Int} {o : Option Nat} (h : underlying t = .choice alts) (hn : p.tagNumber = o)
    (ho : p.openType = false) (hk : 0 < k) (hf : fieldAt alts (k.toNat - 1) = some (q, u))
    (hv : valAt vs (k.toNat - 1) = some v) (hb : marshal u q v = .ok b) :
    marshal t p (.choice k vs) = .ok (o.elim b fun n => tlv 2 true n b) := by
  subst hn
  rw [marshal_underlying (by simp), h, marshal_choice, if_neg (by simp [ho]; omega), marshalAlt_eq hf hv, hb]
  cases p.tagNumber <;> rfl

/-- an absent OPTIONAL member is left out -/
theorem marshalFields_skip (ho : p.optional = true) (hn : nilable t = true) :
    marshalFields (.cons p t r) (.cons .nil vs) = marshalFields r vs := by
  rw [marshalFields_cons, if_neg (by simp [hn]), if_pos ⟨ho, rfl⟩]

theorem marshalFields_absent (ho : p.optional = true) (hn : nilable t = true) (hr : marshalFields r vs = .ok b) :
    marshalFields (.cons p t r) (.cons .nil vs) = .ok b :=
  (marshalFields_skip ho hn).trans hr

theorem marshalFields_present (hp : (!p.optional || nilable t && !isNilVal v) = true) (hot : p.openType = false)
    (ha : marshal t p v = .ok a) (hr : marshalFields r vs = .ok b) :
    marshalFields (.cons p t r) (.cons v vs) = .ok (a ++ b) := by
  simp only [Bool.and_eq_true, Bool.or_eq_true, Bool.not_eq_true'] at hp
  rw [marshalFields_cons, if_neg (by rcases hp with h | h <;> simp [h]), if_neg (by rcases hp with h | h <;> simp [h]),
    if_neg (by simp [hot]), ha, hr]; rfl

/-- what an OPTIONAL member contributes to the content octets: nothing when it is nil -/
def marshalOpt (t : Ty) (p : Params) (v : Val) : Res Bytes := if isNilVal v then .ok [] else marshal t p v

theorem marshalFields_opt (ho : p.optional = true) (hn : nilable t = true) (hot : p.openType = false)
    (ha : marshalOpt t p v = .ok a) (hr : marshalFields r vs = .ok b) :
    marshalFields (.cons p t r) (.cons v vs) = .ok (a ++ b) := by
  unfold marshalOpt at ha
  cases hv : isNilVal v
  · rw [hv] at ha
    exact marshalFields_present (by simp [hn, hv]) hot ha hr
  · rw [hv, if_pos rfl, Res.ok.injEq] at ha
    rw [marshalFields_cons, if_neg (by simp [hn]), if_pos ⟨ho, hv⟩, hr, ← ha]; rfl

theorem marshalElems_cons_ok (ha : marshal t p v = .ok a) (hr : marshalElems t p vs = .ok b) :
    marshalElems t p (.cons v vs) = .ok (a ++ b) := by
  rw [marshalElems_cons, ha, hr]; rfl

end

end Chf.Ber
