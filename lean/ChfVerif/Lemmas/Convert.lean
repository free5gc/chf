import ChfVerif.Model.Convert
import ChfVerif.Lemmas.Bits
/- the BCD timestamp of TS 32.298: `bcd` / `unbcd` on two-digit numbers, and the independent reader on what
   `timeStampToCdr` writes (C02) -/
namespace Chf.Convert
open Chf

theorem bcd_eq {x : Nat} (h : x < 100) : bcd x = (x / 10) * 16 + x % 10 := by
  rw [bcd, Nat.mod_eq_of_lt (by omega : x / 10 < 256), Nat.mod_eq_of_lt (by omega : x / 10 * 16 < 256)]
  have := shl_or_of_lt (a := x / 10) (i := 4) (Nat.lt_trans (Nat.mod_lt x (by decide : 0 < 10)) (by decide : 10 < 2 ^ 4))
  rwa [Nat.shiftLeft_eq] at this

theorem unbcd_bcd {x : Nat} (h : x < 100) : unbcd (bcd x) = x := by
  have h16 : x % 10 < 16 := Nat.lt_trans (Nat.mod_lt x (by decide)) (by decide)
  rw [bcd_eq h, unbcd, mul_add_div_of_lt h16, Nat.mul_add_mod_of_lt h16, Nat.div_add_mod']

/-- `TimeStampToCdr` read back by the TS 32.298 reader.  The bounds are those of the format: two BCD digits per field
    (below 100), hence a zone offset below 100 h; it is written in whole minutes. -/
theorem readTimeStamp_timeStampToCdr (t : Civil) (hmo : t.month < 100) (hd : t.day < 100) (hh : t.hour < 100)
    (hmi : t.minute < 100) (hs : t.second < 100) (hz : t.tz.natAbs < 360000) (hz60 : t.tz % 60 = 0) :
    readTimeStamp (timeStampToCdr t) =
      some ⟨t.year % 100, t.month, t.day, t.hour, t.minute, t.second, t.tz / 60⟩ := by
  have hy : ((t.year % 100 / 10 % 256) * 16 % 256) ||| (t.year % 10 % 256) = bcd (t.year % 100) := by
    rw [bcd, Nat.mod_mod_of_dvd _ (by decide : 10 ∣ 100),
      Nat.mod_eq_of_lt (Nat.lt_trans (Nat.mod_lt _ (by decide)) (by decide) : t.year % 10 < 256)]
  have hzh : t.tz.natAbs / 3600 < 100 := Nat.div_lt_of_lt_mul hz
  have hzm : t.tz.natAbs % 3600 / 60 < 100 :=
    Nat.div_lt_of_lt_mul (Nat.lt_trans (Nat.mod_lt _ (by decide)) (by decide))
  simp only [timeStampToCdr, readTimeStamp, hy, unbcd_bcd (Nat.mod_lt _ (by decide : 0 < 100)), unbcd_bcd hmo,
    unbcd_bcd hd, unbcd_bcd hh, unbcd_bcd hmi, unbcd_bcd hs, unbcd_bcd hzh, unbcd_bcd hzm]
  -- hours and minutes of the offset make up its whole minutes, under either sign
  by_cases hp : t.tz ≥ 0
  · simp only [hp, if_true]
    congr 2
    omega
  · simp only [hp, if_false, show ¬ ((45 : Nat) = 43) by decide, if_true]
    congr 2
    omega

end Chf.Convert
