import ChfVerif.Lemmas.BerStruct
/-
  The structural round trip of C05: unmarshal (marshal v) = v through SEQUENCE, SEQUENCE OF, CHOICE, wrappers and pointers.

  The domain: `rtTy` (types: members keyed, OPTIONAL members nil-able and not confusable with a later member - `matchesLater` -,
  CHOICE alternatives selected by distinct tag numbers - `tagsOfTy`), `rtParams` (parameters; `RtParams` is the same as a
  structure, which is what the proofs use) and `Canon` (values as the decoder produces them).
  The statements: `rt_val`, `rt_list`, `rt_fields`, `rt_alt`, one for each of the encoder's four procedures (`marshal`,
  `marshalElems`, `marshalFields`, `marshalAlt`), proved together by recursion on what makes the value canonical.  Besides the
  value coming back they say what the enclosing decoder needs to know of the octets: `Keyed` (one element, of the class and tag
  number `elemKey` predicts), `Tlvs` (a run of elements), `HeadFree` (skipping an absent OPTIONAL member is safe).
-/
namespace Chf.Ber
open Chf

def rtParams (p : Params) : Bool :=
  (match p.tagNumber with | some n => decide (n < 9223372036854775808) | none => true) &&
  decide (p.stringType < 9223372036854775808) && !p.openType && !p.set && (!p.explicit || p.tagNumber.isNone)

/-- some later member's element would be taken for this (absent) member -/
def matchesLater (p : Params) (t : Ty) : Fields → Bool
  | .nil => false
  | .cons p' t' r => (match elemKey p' t' with | some (c, g) => memberMatches p t c g | none => true) || matchesLater p t r

def tagAbsent (n : Nat) : Fields → Bool
  | .nil => true
  | .cons p _ r => (p.tagNumber != some n) && tagAbsent n r

mutual
/-- the tag numbers an untagged CHOICE (behind pointers) can show as its outermost header -/
def tagsOfTy : Ty → List Nat
  | .ptr t => tagsOfTy t
  | .choice alts => tagsOfAlts alts
  | _ => []
def tagsOfAlts : Fields → List Nat
  | .nil => []
  | .cons p t r => (match p.tagNumber with | some n => [n] | none => tagsOfTy t) ++ tagsOfAlts r
end

theorem hasTag_mem :
    (∀ (t : Ty) (n : Nat), choiceHasTag t n = true → n ∈ tagsOfTy t) ∧
    (∀ (fs : Fields) (n : Nat), altsHaveTag fs n = true → n ∈ tagsOfAlts fs) := by
  apply choiceHasTag.mutual_induct_unfolding (motive_1 := fun t n r => r = true → n ∈ tagsOfTy t)
    (motive_2 := fun fs n r => r = true → n ∈ tagsOfAlts fs)
  · intro t n ih h; rw [tagsOfTy]; exact ih h
  · intro alts n ih h; rw [tagsOfTy]; exact ih h
  · intro t n _ _ h; cases h
  · intro n h; cases h
  · intro p t r n ih1 ih2 h
    rw [tagsOfAlts, List.mem_append]
    simp only [Bool.or_eq_true] at h
    refine h.imp (fun h => ?_) ih2
    cases hp : p.tagNumber with
    | some m => rw [hp] at h; simp only [beq_iff_eq] at h; simp [h]
    | none => rw [hp] at h; exact ih1 h

theorem altsHaveTag_mem : ∀ (fs : Fields) (n : Nat), altsHaveTag fs n = true → n ∈ tagsOfAlts fs := hasTag_mem.2

mutual
/-- types the structural round trip covers: SEQUENCE (not SET), SEQUENCE OF, CHOICE with tagged alternatives,
    wrappers, pointers; members keyed, optional members nil-able and not confusable with a later one -/
def rtTy : Ty → Bool
  | .ptr t => rtTy t
  | .wrap t => rtTy t
  | .slice t => rtTy t
  | .choice alts => rtAlts alts
  | .struct fs => (fs.length != 0) && rtFields fs
  | .str d => decide (d < 9223372036854775808)
  | _ => true        -- OBJECT IDENTIFIER and unsupported kinds never marshal: the law holds vacuously for them
def rtFields : Fields → Bool
  | .nil => true
  | .cons p t r => rtParams p && rtTy t && (elemKey p t).isSome &&
      (!p.optional || (nilable t && !matchesLater p t r)) && rtFields r
def rtAlts : Fields → Bool
  | .nil => true
  | .cons p t r => rtParams p && rtTy t &&
      (match p.tagNumber with
       | some n => !altsHaveTag r n
       | none => isChoiceTy t && (tagsOfTy t).all (fun n => !altsHaveTag r n)) && rtAlts r
end

mutual
/-- values as the decoder produces them (what DeepEqual compares against) -/
inductive Canon : Ty → Val → Prop
  | ptr {t v} : Canon t v → Canon (.ptr t) v
  | wrap {t v} : Canon t v → Canon (.wrap t) v
  | bool {x} : Canon .bool (.bool x)
  | int {w i} : int64 i → truncInt w i = i → Canon (.int w) (.int i)
  | enum {i} : int64 i → Canon .enum (.int i)
  | octets {bs} : Canon .octets (.bytes bs)
  | bits {bs n} : n ≤ 8 * bs.length → 8 * bs.length < n + 8 → Canon .bits (.bits bs n)
  | null : Canon .null (.null true)
  | str {d bs} : Canon (.str d) (.str bs)
  | slice {t vs} : CanonList t vs → Canon (.slice t) (.list vs)
  | struct {fs vs} : CanonFields fs vs → Canon (.struct fs) (.struct vs)
  | choice {alts present vs v} : 1 ≤ present → CanonAlt alts (present.toNat - 1) v →
      valAt vs (present.toNat - 1) = some v →
      vs = setAt (zeroVals alts) (present.toNat - 1) v → Canon (.choice alts) (.choice present vs)
inductive CanonList : Ty → Vals → Prop
  | nil {t} : CanonList t .nil
  | cons {t v r} : Canon t v → CanonList t r → CanonList t (.cons v r)
inductive CanonFields : Fields → Vals → Prop
  | nil : CanonFields .nil .nil
  | absent {p t r vs} : p.optional = true → CanonFields r vs → CanonFields (.cons p t r) (.cons .nil vs)
  | present {p t r v vs} : Canon t v → CanonFields r vs → CanonFields (.cons p t r) (.cons v vs)
inductive CanonAlt : Fields → Nat → Val → Prop
  | here {p t r v} : Canon t v → CanonAlt (.cons p t r) 0 v
  | there {p t r n v} : CanonAlt r n v → CanonAlt (.cons p t r) (n + 1) v
end

-- every constructor but the two transparent ones builds a value other than nil
theorem not_canon_nil : ∀ {t : Ty}, ¬ Canon t .nil
  | _, .ptr h => not_canon_nil h
  | _, .wrap h => not_canon_nil h

theorem canon_ne_nil {t : Ty} {v : Val} (h : Canon t v) : v ≠ .nil := fun e => not_canon_nil (e ▸ h)

theorem valsOK_cons {v : Val} {r : Vals} : valsOK (.cons v r) = true ↔ valOK v = true ∧ valsOK r = true := by
  rw [valsOK, Bool.and_eq_true]

mutual
theorem valOK_zeroVal : ∀ t, valOK (zeroVal t) = true
  | .wrap t => valOK_zeroVal t
  | .choice fs | .struct fs => valsOK_zeroVals fs
  | .bool | .int _ | .enum | .octets | .bits | .null | .oid | .str _ | .ptr _ | .slice _ | .unsupported => rfl
theorem valsOK_zeroVals : ∀ fs, valsOK (zeroVals fs) = true
  | .nil => rfl
  | .cons _ t r => valsOK_cons.mpr ⟨valOK_zeroVal t, valsOK_zeroVals r⟩
end

theorem valsOK_setAt {v : Val} (hv : valOK v = true) : ∀ vs n, valsOK vs = true → valsOK (setAt vs n v) = true
  | .nil, _, _ => rfl
  | .cons _ _, 0, h => valsOK_cons.mpr ⟨hv, (valsOK_cons.mp h).2⟩
  | .cons _ r, n + 1, h => valsOK_cons.mpr ⟨(valsOK_cons.mp h).1, valsOK_setAt hv r n (valsOK_cons.mp h).2⟩

mutual
/-- a canonical value holds int64 integers only: the domain of the encoder theorems contains the domain of the round trip -/
theorem Canon.valOK : ∀ {t : Ty} {v : Val}, Canon t v → valOK v = true
  | _, _, .ptr h => h.valOK
  | _, _, .wrap h => h.valOK
  | _, _, .int h _ | _, _, .enum h => decide_eq_true h
  | _, _, .bool | _, _, .octets | _, _, .bits _ _ | _, _, .null | _, _, .str => rfl
  | _, _, .slice h => h.valsOK
  | _, _, .struct h => h.valsOK
  | _, _, .choice _ ha _ hvs => hvs ▸ valsOK_setAt ha.valOK _ _ (valsOK_zeroVals _)
theorem CanonList.valsOK : ∀ {t : Ty} {vs : Vals}, CanonList t vs → valsOK vs = true
  | _, _, .nil => rfl
  | _, _, .cons h hr => valsOK_cons.mpr ⟨h.valOK, hr.valsOK⟩
theorem CanonFields.valsOK : ∀ {fs : Fields} {vs : Vals}, CanonFields fs vs → valsOK vs = true
  | _, _, .nil => rfl
  | _, _, .absent _ hr => valsOK_cons.mpr ⟨rfl, hr.valsOK⟩
  | _, _, .present h hr => valsOK_cons.mpr ⟨h.valOK, hr.valsOK⟩
theorem CanonAlt.valOK : ∀ {fs : Fields} {n : Nat} {v : Val}, CanonAlt fs n v → valOK v = true
  | _, _, _, .here h => h.valOK
  | _, _, _, .there h => h.valOK
end

/-- what `rtParams` asks of a parameter set -/
structure RtParams (q : Params) : Prop where
  tag : ∀ n, q.tagNumber = some n → n < 9223372036854775808
  str : q.stringType < 9223372036854775808
  openType : q.openType = false
  set : q.set = false
  implicit : q.explicit = false ∨ q.tagNumber = none

theorem rtParams_spec {q : Params} (h : rtParams q = true) : RtParams q := by
  simp only [rtParams, Bool.and_eq_true, Bool.or_eq_true, Bool.not_eq_true', decide_eq_true_eq,
    Option.isNone_iff_eq_none] at h
  obtain ⟨⟨⟨⟨h1, h2⟩, h3⟩, h4⟩, h5⟩ := h
  exact ⟨fun n hn => by simpa [hn] using h1, h2, h3, h4, h5⟩

theorem RtParams.untag {q : Params} (h : RtParams q) : RtParams { q with tagNumber := none } :=
  ⟨nofun, h.str, h.openType, h.set, .inr rfl⟩

/-- no EXPLICIT unwrapping happens under these parameters -/
theorem RtParams.no_unwrap {q : Params} (h : RtParams q) (t : Ty) : needsUnwrap t q = false ∧ entered q = q := by
  unfold needsUnwrap entered
  rcases h.implicit with h | h <;> simp [h]

/-- 2^62: the bound on the length of an encoding under which every length the decoder computes fits its int64 -/
def B62 : Nat := 4611686018427387904

theorem tlv_content_lt {cls tag : Nat} {c : Bool} {content : Bytes} (h : (tlv cls c tag content).length < B62) :
    content.length < 9223372036854775808 := by
  rw [tlv_length] at h; simp only [B62] at h; omega

theorem fits_of_short {q : Params} {c : Bool} {tag : Nat} {content : Bytes}
    (hn : ∀ n, q.tagNumber = some n → n < 9223372036854775808) (hl : (finish q c tag content).length < B62) :
    fits q content := by
  have := finish_length_ge q c tag content
  exact ⟨hn, by simp only [B62] at hl; omega⟩

/-- the shape of an encoding as the enclosing decoder sees it: one TLV, of class and tag number `elemKey`; an untagged
    CHOICE shows the context tag of its alternative -/
def Keyed (t : Ty) (q : Params) (b : Bytes) : Prop :=
  ∃ cls tag, IsTlv cls tag b ∧ (∀ k, elemKey q t = some k → k = (cls, tag)) ∧
    (q.tagNumber = none → isChoiceTy t = true → cls = 2 ∧ choiceHasTag t tag = true)

theorem finish_keyed (q : Params) (t : Ty) (c : Bool) (tag : Nat) (content : Bytes)
    (he : expectedTag q (underlying t) = some tag) (htag : tag < 9223372036854775808) (hq : RtParams q)
    (hnc : isChoiceTy t = false) (hl : (finish q c tag content).length < B62) : Keyed t q (finish q c tag content) := by
  obtain ⟨cls, tag', c', content', e, hk, htg⟩ := finish_tlv_key c content he
  refine ⟨cls, tag', ⟨c', content', e, ?_, tlv_content_lt (e ▸ hl)⟩,
    fun k hk' => (Option.some.inj (hk.symm.trans hk')).symm, fun _ h => ?_⟩
  · rcases htg with h | rfl
    · exact hq.tag _ h
    · exact htag
  · rw [hnc] at h; cases h

/-- the first element of the run `es` written for the members `fs` is not taken for a member that none of `fs` can be
    confused with: what skipping an absent OPTIONAL member needs to know of the elements behind it -/
def HeadFree (fs : Fields) (es : List Elem) : Prop :=
  ∀ p t x, matchesLater p t fs = false → es.head? = some x → memberMatches p t x.1 x.2.1 = false

/-- the content codec brings back the contents of a canonical primitive -/
theorem canon_prim {t : Ty} {v : Val} {q : Params} {l : Leaf} (ht : isPrim t = true) (hc : Canon t v)
    (hl : leaf t q v = some l) : primValue t (l.contents intBytes) = .ok v := by
  cases hc with
  | @bool x => cases hl; cases x <;> rfl
  | int hi htr => cases hl; simp only [primValue, parseSigned_intBytes _ hi, Res.map, htr]
  | enum hi => cases hl; simp only [primValue, parseSigned_intBytes _ hi, Res.map]
  | bits h1 h2 => cases hl; exact parseBitString_unused _ _ h1 h2
  | octets | null | str => cases hl; rfl
  | _ => cases ht

/-- every canonical primitive, plain or in a Value wrapper, under any tagging -/
theorem canon_prim_rt {t : Ty} {p : Params} {v : Val} {b : Bytes} {l : Leaf} (ht : isPrim t = true) (hc : Canon t v)
    (hl : leaf t p v = some l) (hs : ∀ d, t = .str d → stringTagOf p d < 9223372036854775808)
    (hfit : fits p (l.contents intBytes)) (hm : marshal t p v = .ok b) :
    unmarshal t p b = .ok v ∧ unmarshal (.wrap t) p b = .ok v :=
  prim_roundtrip hm ht hl hs hfit (canon_prim ht hc hl)

/-- a constructed element (SEQUENCE, SEQUENCE OF) whose content is the run `es`: what `enter`, `from_` and
    `splitTLVs` make of it -/
theorem enter_constructed (t : Ty) {q : Params} {es : List Elem} (hq : RtParams q)
    (hexp : expectedTag q (stripPtr t) = some (seqTag q)) (hnc : isChoiceTy t = false)
    (htlv : Tlvs es) (hl : (finish q true (seqTag q) (flat es)).length < B62) :
    ∃ b' tal, enter t q (finish q true (seqTag q) (flat es)) = .ok (b', q, tal) ∧ from_ b' tal.off = .ok (flat es) ∧
      splitTLVs (flat es) (flat es).length = .ok es := by
  obtain ⟨tal, he, hf⟩ := enter_finish t q true (seqTag q) (flat es) (fun e h => by rw [hexp] at h; cases h; rfl) hnc
    (seqTag_lt63 q) (fits_of_short hq.tag hl)
  rw [(hq.no_unwrap t).2] at he hf
  exact ⟨_, tal, he, hf, splitTLVs_flat es htlv _ (Nat.le_refl _)⟩

theorem isNilVal_eq {v : Val} (h : isNilVal v = true) : v = .nil := by
  cases v <;> first | rfl | cases h

theorem zeroVal_nilable {t : Ty} (h : nilable t = true) : zeroVal t = .nil := by
  cases t <;> first | rfl | cases h

section
variable {p : Params} {t : Ty} {r : Fields}

theorem memberMatches_self {cls tag : Nat} (h : elemKey p t = some (cls, tag)) :
    memberMatches p t cls tag = true := by
  unfold elemKey at h
  unfold memberMatches
  split at h
  · cases h; simp [*]
  · split at h
    · cases h; simp [*]
    · cases h

theorem matchesLater_cons {p' : Params} {t' : Ty} (h : matchesLater p t (.cons p' t' r) = false) :
    (∀ c g, elemKey p' t' = some (c, g) → memberMatches p t c g = false) ∧ matchesLater p t r = false := by
  simp only [matchesLater, Bool.or_eq_false_iff] at h
  exact ⟨fun c g hk => by rw [hk] at h; exact h.1, h.2⟩

theorem rtFields_cons (h : rtFields (.cons p t r) = true) :
    RtParams p ∧ rtTy t = true ∧ (∃ k, elemKey p t = some k) ∧
      (p.optional = true → nilable t = true ∧ matchesLater p t r = false) ∧ rtFields r = true := by
  simp only [rtFields, Bool.and_eq_true, Bool.or_eq_true, Bool.not_eq_true', Option.isSome_iff_exists] at h
  obtain ⟨⟨⟨⟨hp, hty⟩, hkey⟩, hopt⟩, hrr⟩ := h
  exact ⟨rtParams_spec hp, hty, hkey, fun ho => hopt.resolve_left (by rw [ho]; nofun), hrr⟩

theorem altsHaveTag_cons {g : Nat} : altsHaveTag (.cons p t r) g = (altMatches p t g || altsHaveTag r g) := rfl

theorem rtAlts_cons (h : rtAlts (.cons p t r) = true) :
    RtParams p ∧ rtTy t = true ∧ rtAlts r = true ∧ (p.tagNumber = none → isChoiceTy t = true) ∧
      ∀ g, altMatches p t g = true → altsHaveTag r g = false := by
  simp only [rtAlts, Bool.and_eq_true] at h
  obtain ⟨⟨⟨hp, hty⟩, htag⟩, hrr⟩ := h
  unfold altMatches
  cases hpn : p.tagNumber with
  | some m =>
    rw [hpn] at htag
    refine ⟨rtParams_spec hp, hty, hrr, nofun, fun g hg => ?_⟩
    rw [← beq_iff_eq.mp hg]; simpa using htag
  | none =>
    rw [hpn] at htag
    simp only [Bool.and_eq_true, List.all_eq_true, Bool.not_eq_true'] at htag
    exact ⟨rtParams_spec hp, hty, hrr, fun _ => htag.1, fun g hg => htag.2 g (hasTag_mem.1 t g hg)⟩

end

/-- a primitive: `canon_prim_rt`, and what `finish` wrote is `Keyed` -/
theorem rt_prim {t : Ty} {v : Val} (hp : isPrim t = true) (hc : Canon t v) (q : Params) (b : Bytes) (hq : RtParams q)
    (ht : rtTy t = true) (hm : marshal t q v = .ok b) (hl : b.length < B62) : unmarshal t q b = .ok v ∧ Keyed t q b := by
  -- the universal tag of a character string is the declared string type, or the one the type names
  have hs : ∀ d, t = .str d → stringTagOf q d < 9223372036854775808 := fun d e => by
    subst e; unfold stringTagOf; split
    · exact hq.str
    · simpa [rtTy] using ht
  obtain ⟨l, hlf, he, rfl⟩ := marshal_prim hp hm
  obtain ⟨hu, _, hnc⟩ := isPrim_under hp
  exact ⟨(canon_prim_rt hp hc hlf hs (fits_of_short hq.tag hl) hm).1,
    finish_keyed q t false _ _ (hu.symm ▸ he) (expectedTag_lt hs he) hq hnc hl⟩

/-! ### the law

  In each case the parameters behind the derivation are taken by `fun`, not matched: compiling the recursion pays again for
  every discriminant of the match. -/
mutual
/-- `marshal`: the value comes back, and its encoding is `Keyed` -/
theorem rt_val : ∀ {t : Ty} {v : Val}, Canon t v → ∀ (q : Params) (b : Bytes), RtParams q → rtTy t = true →
    marshal t q v = .ok b → b.length < B62 → unmarshal t q b = .ok v ∧ Keyed t q b
  | _, _, .ptr h => fun q b hq ht hm hl => by
    rw [marshal_ptr (canon_ne_nil h)] at hm
    rw [unmarshal_ptr]
    -- key, CHOICE test and tag selection of a type all look through pointers: `Keyed (.ptr t)` unfolds to `Keyed t`
    exact rt_val h q b hq ht hm hl
  | .wrap t, _, .wrap h => fun q b hq ht hm hl => by
    rw [marshal_wrap] at hm
    obtain ⟨h1, cls, tag, ⟨c, content, rfl, h4, hlen⟩, h5, _⟩ := rt_val h q b hq ht hm hl
    have htok : tagOk (.wrap t) q (talOf cls c tag content) = true := by
      cases hp : q.tagNumber with
      | none => unfold tagOk; rw [hp]; rfl
      | some n =>
        obtain ⟨rfl, rfl⟩ := Prod.mk.inj (h5 _ (elemKey_tagged _ hp))
        exact tagOk_tagged hp ..
    have he := enter_tlv (.wrap t) q cls c tag content h4 hlen htok (hq.no_unwrap _).1
    exact ⟨by rw [unmarshal_wrap, he]; exact h1, cls, tag, ⟨c, content, rfl, h4, hlen⟩, h5, fun _ hch => by cases hch⟩
  | _, _, h@.bool | _, _, h@(.int ..) | _, _, h@(.enum _) | _, _, h@.octets | _, _, h@(.bits ..) | _, _, h@.null
  | _, _, h@.str => rt_prim rfl h
  | .slice t, _, .slice h => fun q b hq ht hm hl => by
    rw [marshal_list] at hm
    obtain ⟨content, hme, rfl⟩ := Res.map_eq_ok hm
    obtain ⟨es, rfl, htlv, hdec⟩ := rt_list h { q with tagNumber := none } content hq.untag ht hme
      (Nat.lt_of_le_of_lt (finish_length_ge ..) hl)
    obtain ⟨b', tal, he, hfrom, hsplit⟩ := enter_constructed (.slice t) hq rfl rfl htlv hl
    refine ⟨?_, finish_keyed q (.slice t) true (seqTag q) _ rfl (seqTag_lt63 q) hq rfl hl⟩
    rw [unmarshal_slice, he]
    simp only [Res.bind, hfrom, hsplit, hdec, Res.map]
  | .struct fs, _, .struct h => fun q b hq ht hm hl => by
    have ht' : fs.length ≠ 0 ∧ rtFields fs = true := by simpa [rtTy] using ht
    rw [marshal_struct, if_neg ht'.1] at hm
    obtain ⟨content, hmf, rfl⟩ := Res.map_eq_ok hm
    obtain ⟨es, rfl, htlv, _, hdec⟩ := rt_fields h content ht'.2 hmf (Nat.lt_of_le_of_lt (finish_length_ge ..) hl)
    obtain ⟨b', tal, he, hfrom, hsplit⟩ := enter_constructed (.struct fs) hq rfl rfl htlv hl
    refine ⟨?_, finish_keyed q (.struct fs) true (seqTag q) _ rfl (seqTag_lt63 q) hq rfl hl⟩
    rw [unmarshal_struct, he]
    simp only [Res.bind, ht'.1, if_false, hfrom, hsplit, hq.set, hq.openType, Bool.false_eq_true, false_and, hdec, Res.map]
  | .choice alts, .choice present vs, .choice (v := v) hp1 ha hva hvs => fun q b hq ht hm hl => by
    rw [marshal_choice, if_neg (not_or.mpr ⟨by omega, Bool.eq_false_iff.mp hq.openType⟩)] at hm
    -- `rt_alt` is used at `i := 0`, no alternative passed yet: the value it returns there is the one wanted
    have e0 : Val.choice ((0 + (present.toNat - 1) : Nat) + 1) (setAt (zeroVals alts) (0 + (present.toNat - 1)) v) =
        .choice present vs := by
      rw [Nat.zero_add, ← hvs, show ((present.toNat - 1 : Nat) : Int) + 1 = present by omega]
    cases hqt : q.tagNumber with
    | none =>
      simp only [hqt] at hm
      obtain ⟨tagn, ⟨c', content, rfl, htg, hcl⟩, hpresent, hdec⟩ := rt_alt ha vs alts 0 b ht hva hm hl
      have he := enter_tlv (.choice alts) q 2 c' tagn content htg hcl (by simp [tagOk, hqt, stripPtr, expectedTag])
        (hq.no_unwrap _).1
      refine ⟨?_, 2, tagn, ⟨c', content, rfl, htg, hcl⟩, ?_, fun _ _ => ⟨rfl, hpresent⟩⟩
      · rw [unmarshal_choice, he]
        simp only [Res.bind, hq.openType, Bool.false_eq_true, if_false, hqt]
        exact hdec.trans (congrArg _ e0)
      · intro k hk; rw [elemKey_choice_untagged alts hqt] at hk; cases hk
    | some n =>
      simp only [hqt] at hm
      obtain ⟨inner, hma, rfl⟩ := Res.map_eq_ok hm
      have hn := hq.tag n hqt
      have hil : inner.length < B62 := by
        have := tlv_length 2 true n inner; omega
      obtain ⟨tagn, ⟨c', content, rfl, htg, hcl⟩, _, hdec⟩ := rt_alt ha vs alts 0 inner ht hva hma hil
      have he := enter_tlv (.choice alts) q 2 true n (tlv 2 c' tagn content) hn (tlv_content_lt hl)
        (tagOk_tagged hqt ..) (by simp [needsUnwrap, isChoiceTy, stripPtr])
      -- the decoder's bound check on the inner element: it ends exactly where the content of the outer one ends
      have hfit : ¬ ((talOf 2 true n (tlv 2 c' tagn content)).off + (talOf 2 c' tagn content).off +
          (talOf 2 c' tagn content).len > (tlv 2 true n (tlv 2 c' tagn content)).length) := by
        rw [← talOf_end, Nat.add_assoc, talOf_end]; simp [talOf]
      refine ⟨?_, 2, n, ⟨true, _, rfl, hn, tlv_content_lt hl⟩, ?_, fun hnone => ?_⟩
      · rw [unmarshal_choice, he]
        simp only [Res.bind, hq.openType, Bool.false_eq_true, if_false, hqt, from_tlv,
          parse_tlv 2 c' tagn content htg hcl, hfit]
        exact hdec.trans (congrArg _ e0)
      · intro k hk; rw [elemKey_tagged _ hqt] at hk; exact (Option.some.inj hk).symm
      · rw [hqt] at hnone; cases hnone

/-- `marshalElems`: the content of a SEQUENCE OF is a run of elements from which the values come back -/
theorem rt_list : ∀ {t : Ty} {vs : Vals}, CanonList t vs → ∀ (q : Params) (c : Bytes), RtParams q → rtTy t = true →
    marshalElems t q vs = .ok c → c.length < B62 → ∃ es, flat es = c ∧ Tlvs es ∧ decodeElems t q es = .ok vs
  | _, _, .nil => fun q c _ _ hm _ => by
    rw [marshalElems_nil] at hm; cases hm
    exact ⟨[], rfl, .nil, decodeElems_nil⟩
  | _, _, .cons h hs => fun q c hq ht hm hl => by
    rw [marshalElems_cons] at hm
    obtain ⟨a, r, hma, hmr, rfl⟩ := Res.map₂_eq_ok hm
    rw [List.length_append] at hl
    obtain ⟨h1, cls, tag, hx, _⟩ := rt_val h q a hq ht hma (by omega)
    obtain ⟨es, rfl, htlv, hdec⟩ := rt_list hs q r hq ht hmr (by omega)
    exact ⟨(cls, tag, a) :: es, rfl, htlv.cons hx, by rw [decodeElems_cons, h1, hdec]; rfl⟩

/-- `marshalFields`: the content of a SEQUENCE is a run of elements, `HeadFree`, from which the member values come back -/
theorem rt_fields : ∀ {fs : Fields} {vs : Vals}, CanonFields fs vs → ∀ (c : Bytes), rtFields fs = true →
    marshalFields fs vs = .ok c → c.length < B62 →
    ∃ es, flat es = c ∧ Tlvs es ∧ HeadFree fs es ∧ decodeSeq fs es = .ok vs
  | _, _, .nil => fun c _ hm _ => by
    rw [marshalFields_nil] at hm; cases hm
    exact ⟨[], rfl, .nil, fun _ _ _ _ => nofun, decodeSeq_nil.trans (if_pos rfl)⟩
  -- an absent OPTIONAL member: nothing is written, and no later member's element is taken for it
  | .cons p t r, _, .absent ho hs => fun c hrt hm hl => by
    obtain ⟨_, _, _, hopt, hrr⟩ := rtFields_cons hrt
    obtain ⟨hnil, hlater⟩ := hopt ho
    rw [marshalFields_skip ho hnil] at hm
    obtain ⟨es, hflat, htlv, hfree, hdec⟩ := rt_fields hs c hrr hm hl
    exact ⟨es, hflat, htlv, fun p' t' x h => hfree p' t' x (matchesLater_cons h).2,
      by rw [decodeSeq_skip (hfree p t · hlater), hdec, zeroVal_nilable hnil]; rfl⟩
  | .cons p t r, .cons v _, .present h hs => fun c hrt hm hl => by
    obtain ⟨hp, hty, ⟨key, hkey⟩, hopt, hrr⟩ := rtFields_cons hrt
    have h1 : ¬(p.optional = true ∧ nilable t = false) := fun h => by rw [(hopt h.1).1] at h; cases h.2
    have h2 : ¬(p.optional = true ∧ isNilVal v = true) := fun h' => canon_ne_nil h (isNilVal_eq h'.2)
    rw [marshalFields_cons, if_neg h1, if_neg h2, if_neg (Bool.eq_false_iff.mp hp.openType)] at hm
    obtain ⟨a, rb, hma, hmr, rfl⟩ := Res.map₂_eq_ok hm
    rw [List.length_append] at hl
    obtain ⟨hu, cls, tag, hx, hk5, _⟩ := rt_val h p a hp hty hma (by omega)
    obtain ⟨es, rfl, htlv, _, hdec⟩ := rt_fields hs rb hrr hmr (by omega)
    have hkk : elemKey p t = some (cls, tag) := by rw [hkey, hk5 key hkey]
    exact ⟨(cls, tag, a) :: es, rfl, htlv.cons hx,
      fun p' t' x h hx => by cases hx; exact (matchesLater_cons h).1 cls tag hkk,
      by rw [decodeSeq_cons_cons, if_pos (memberMatches_self hkk), hu, hdec]; rfl⟩

/-- `marshalAlt`: the `n`-th of the alternatives `fs`, which the decoder reaches having passed `i` others -/
theorem rt_alt : ∀ {fs : Fields} {n : Nat} {v : Val}, CanonAlt fs n v → ∀ (vs : Vals) (all : Fields) (i : Nat) (b : Bytes),
    rtAlts fs = true → valAt vs n = some v → marshalAlt fs vs n = .ok b → b.length < B62 →
    ∃ tagn, IsTlv 2 tagn b ∧ altsHaveTag fs tagn = true ∧
      decodeAlt all fs i tagn b = .ok (.choice ((i + n : Nat) + 1) (setAt (zeroVals all) (i + n) v))
  | .cons p t _, _, _, .here h => fun vs all i b hrt hv hm hl => by
    obtain _ | ⟨_, _⟩ := vs <;> cases hv
    rw [marshalAlt_zero] at hm
    obtain ⟨hp, hty, _, hchoice, _⟩ := rtAlts_cons hrt
    obtain ⟨hu, cls, tag, hx, hk, hch⟩ := rt_val h p b hp hty hm hl
    -- the element carries the tag number that selects this alternative
    have hsel : cls = 2 ∧ altMatches p t tag = true := by
      unfold altMatches
      cases hpn : p.tagNumber with
      | none => exact hch hpn (hchoice hpn)
      | some n =>
        obtain ⟨rfl, rfl⟩ := Prod.mk.inj (hk _ (elemKey_tagged _ hpn))
        exact ⟨rfl, beq_self_eq_true n⟩
    obtain ⟨rfl, hsel⟩ := hsel
    exact ⟨tag, hx, by rw [altsHaveTag_cons, hsel]; rfl, by rw [decodeAlt_cons, if_pos hsel, hu]; rfl⟩
  -- an earlier alternative is not selected by the tag of a later one
  | .cons p t _, _, _, .there h => fun vs all i b hrt hv hm hl => by
    obtain _ | ⟨_, vs⟩ := vs
    · cases hv
    rw [marshalAlt_succ] at hm
    obtain ⟨_, _, hrr, _, hexcl⟩ := rtAlts_cons hrt
    obtain ⟨tagn, hx, hpres, hdec⟩ := rt_alt h vs all (i + 1) b hrr hv hm hl
    have hnm : ¬ altMatches p t tagn = true := fun h => by rw [hexcl tagn h] at hpres; cases hpres
    rw [Nat.add_right_comm] at hdec
    exact ⟨tagn, hx, by rw [altsHaveTag_cons, hpres, Bool.or_true], by rw [decodeAlt_cons, if_neg hnm]; exact hdec⟩
end

end Chf.Ber
