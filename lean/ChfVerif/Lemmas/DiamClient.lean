import ChfVerif.Model.DiamClient
/-
  What each scheduler event does to the client machine of Model/DiamClient.lean when the configuration is `Cfg.Good`
  and no handler is blocked: one equation per event, with the configuration's `if`s gone.  Props/C18 and C19 reason
  from these wherever the configuration is `Good`.  At the end: the invariant `Inv` of C19, what it yields, and its preservation by the
  two events of a connection set-up (the other events are short enough to be treated in `step_inv`, Props/C19.lean).
-/
namespace Chf.DiamClient

variable {cfg : Cfg} {s : St}

theorem run_append (evs evs' : List Ev) : run cfg s (evs ++ evs') = run cfg (run cfg s evs) evs' := List.foldl_append

theorem runW_append {w : WSt} (evs evs' : List Ev) : runW cfg w (evs ++ evs') = runW cfg (runW cfg w evs) evs' :=
  List.foldl_append

theorem takeMsg_eq_none {buf : List (Nat × Nat)} {c : Nat} (h : ∀ x ∈ buf, x.1 ≠ c) : takeMsg buf c = none := by
  have : buf.find? (fun x => x.1 == c) = none := List.find?_eq_none.2 fun x hx => by simpa using h x hx
  simp [takeMsg, this]

theorem drain_eq_self {k : Nat} (hc : s.cur = some k) (h : ∀ x ∈ s.buf, x.1 ≠ chanOf cfg k) : drain cfg s = s := by
  simp [drain, hc, takeMsg_eq_none h]

theorem chanOf_good (hG : cfg.Good) (k : Nat) : chanOf cfg k = k := by simp [chanOf, hG.ownChan]

/-- some request of the subscriber is in progress (the subscriber lock is held) -/
def St.busy (s : St) : Bool := s.cur.isSome || s.returning.isSome || s.dialing.isSome

theorem St.not_busy (h : ¬ s.busy = true) : s.cur = none ∧ s.returning = none ∧ s.dialing = none := by
  simpa [St.busy, and_assoc] using h

theorem St.busy_false (hc : s.cur = none) (hr : s.returning = none) (hd : s.dialing = none) : s.busy = false := by
  simp [St.busy, hc, hr, hd]

theorem step_startSlow (hG : cfg.Good) (hw : s.wedged = false) (hb : s.blocked = 0) :
    step cfg s .startSlow =
      if s.busy then s else { s with next := s.next + 1, dialing := some s.next, reg := s.next } := by
  simp [step, St.busy, hw, hb, hG.serial, chanOf_good hG]

/-- the channels in use are those of earlier requests, so the new request's channel is empty -/
theorem step_start (hG : cfg.Good) (hw : s.wedged = false) (hb : s.blocked = 0) (hbuf : ∀ x ∈ s.buf, x.1 < s.next) :
    step cfg s .start =
      if s.busy then s
      else { s with next := s.next + 1, cur := some s.next, conns := s.next :: s.conns, reg := s.next } := by
  have hf : ∀ x ∈ s.buf, x.1 ≠ s.next := fun x hx => Nat.ne_of_lt (hbuf x hx)
  simp only [step, hw, hb, hG.serial, Bool.true_and, Bool.false_eq_true, if_false, Nat.lt_irrefl, gt_iff_lt, ← St.busy.eq_1]
  split
  · rfl
  · rw [chanOf_good hG]; exact drain_eq_self rfl (by rwa [chanOf_good hG])

theorem step_dialDone (hG : cfg.Good) (hl : s.lateDials = []) (k : Nat)
    (hf : s.dialing = some k → ∀ x ∈ s.buf, x.1 ≠ k) :
    step cfg s (.dialDone k) =
      if s.dialing = some k then { s with dialing := none, cur := some k, conns := k :: s.conns } else s := by
  simp only [step, hl, List.contains_nil, Bool.false_eq_true, if_false]
  split
  · exact drain_eq_self rfl (by rw [chanOf_good hG]; exact hf ‹_›)
  · rfl

/-- a connection set-up that completes at once is the `start` of the machine without a dial phase (any configuration) -/
theorem step_startSlow_dialDone (cfg : Cfg) (s : St) (hd : s.dialing = none) (hl : s.lateDials = []) :
    step cfg (step cfg s .startSlow) (.dialDone s.next) = step cfg s .start := by
  -- the three gates of `startSlow` and `start` are the same; behind a closed gate nobody dials, so `dialDone` does nothing
  have noop : ∀ s' : St, s'.dialing = none → s'.lateDials = [] → step cfg s' (.dialDone s.next) = s' :=
    fun s' h1 h2 => by simp [step, h1, h2]
  show step cfg (ite _ _ _) _ = ite _ _ _
  split
  · exact noop s hd hl
  split
  · exact noop s hd hl
  split
  · exact noop _ hd hl
  · simp [step, hd]

theorem step_dialGiveUp (hG : cfg.Good) : step cfg s .dialGiveUp = s := by
  unfold step; cases s.dialing <;> simp [hG.syncDial]

theorem step_timeout : step cfg s .timeout =
    match s.cur with
    | some k => { s with cur := none, returning := some k, log := .timeout k :: s.log }
    | none => s := rfl

theorem step_ret (hG : cfg.Good) : step cfg s .ret =
    match s.returning with
    | some k => { s with returning := none, conns := s.conns.filter (· != k), stale := k :: s.stale }
    | none => s := by
  unfold step; cases s.returning <;> simp [hG.closesConn]

theorem step_staleAnswer (hG : cfg.Good) (j : Nat) :
    step cfg s (.staleAnswer j) = if j ∈ s.stale then { s with stale := s.stale.erase j } else s := by
  by_cases h : j ∈ s.stale <;> simp [step, h, hG.connBound]

theorem step_answer (hG : cfg.Good) (j : Nat) :
    step cfg s (.answer j) =
      if j ∈ s.conns then
        match s.cur with
        | some k => if k = s.reg then { s with cur := none, returning := some k, log := outcomeOf k j :: s.log } else s
        | none => if hasMsg s.buf s.reg then s else { s with buf := (s.reg, j) :: s.buf }
      else s := by
  by_cases h : j ∈ s.conns <;> cases hc : s.cur <;> cases hm : hasMsg s.buf s.reg <;>
    simp [step, h, hc, hm, hG.buffered, hG.nonBlocking, chanOf_good hG]

theorem tasks_quiet (hw : cfg.watchdog = false) (w : WSt) :
    tasks cfg w = w.st.conns.length + w.st.blocked + w.orphans := by
  simp [tasks, hw]

end Chf.DiamClient

-- the invariant keeps the name the statements of C19 and C18 use
namespace Chf.Props.C19
open Chf.DiamClient

def okOutcome : Outcome → Prop
  | .own _ => True
  | .timeout _ => True
  | .foreign _ _ => False

/-- what holds of every state the machine of a `good` configuration can reach: the first three clauses are the property,
    the others are what keeps them true from one event to the next -/
structure Inv (s : St) : Prop where
  /-- no handler task is blocked on a send -/
  notBlocked : s.blocked = 0
  /-- no request is stuck behind a blocked handler -/
  notWedged : s.wedged = false
  /-- every request acted on its own answer or on its timer -/
  logOk : ∀ o ∈ s.log, okOutcome o
  /-- an open connection is that of the request in progress, waiting or returning -/
  connsOwned : ∀ j ∈ s.conns, s.cur = some j ∨ s.returning = some j
  exclusive : s.cur.isSome = true → s.returning = none
  /-- the handler registered is the waiting request's own -/
  curReg : ∀ k, s.cur = some k → s.reg = k ∧ k < s.next
  /-- what sits in a channel buffer sits in the channel of a request already started: a new request's channel is empty -/
  bufOld : ∀ x ∈ s.buf, x.1 < s.next
  regOld : s.reg < s.next
  /-- the waiting request's channel is empty (a message in it is taken at once, `drain`) -/
  bufCur : ∀ k, s.cur = some k → ∀ x ∈ s.buf, x.1 ≠ k
  /-- at most one connection is open, and none unless a request is in progress -/
  connsShort : s.conns.length ≤ (if (s.cur.isSome || s.returning.isSome) = true then 1 else 0)
  /-- with a synchronous dial no set-up outlives its request -/
  lateNone : s.lateDials = []
  /-- while a request sets its connection up nothing else is in progress, no connection is open, its handler is
      registered and its channel is empty -/
  dialExcl : ∀ k, s.dialing = some k →
    s.cur = none ∧ s.returning = none ∧ s.conns = [] ∧ s.reg = k ∧ k < s.next ∧ ∀ x ∈ s.buf, x.1 ≠ k

section
variable {cfg : Cfg} {s : St}

theorem Inv.idle_conns (h : Inv s) (hc : s.cur = none) (hr : s.returning = none) : s.conns = [] := by
  simpa [hc, hr] using h.connsShort

theorem Inv.dialing_conns (h : Inv s) (hd : s.dialing.isSome = true) : s.conns = [] := by
  obtain ⟨k, hk⟩ := Option.isSome_iff_exists.1 hd
  exact (h.dialExcl k hk).2.2.1

theorem Inv.returning_cur (h : Inv s) {k : Nat} (hr : s.returning = some k) : s.cur = none :=
  Option.not_isSome_iff_eq_none.1 fun hs => nomatch hr.symm.trans (h.exclusive hs)

/-- the open connection is that of the request in progress -/
theorem Inv.conn_eq (h : Inv s) {j k : Nat} (hj : j ∈ s.conns) (hk : s.cur = some k ∨ s.returning = some k) : j = k := by
  have := h.connsOwned j hj
  rcases hk with hk | hk
  · simpa [hk, h.exclusive (by simp [hk]), eq_comm] using this
  · simpa [hk, h.returning_cur hk, eq_comm] using this

/-- the waiting request stops waiting: on its own answer or on its timer -/
theorem Inv.finish (h : Inv s) {k : Nat} (hc : s.cur = some k) {o : Outcome} (ho : okOutcome o) :
    Inv { s with cur := none, returning := some k, log := o :: s.log } :=
  { h with
    logOk := List.forall_mem_cons.2 ⟨ho, h.logOk⟩
    connsOwned := fun j hj => .inr (congrArg some (h.conn_eq hj (.inl hc)).symm)
    exclusive := nofun
    curReg := nofun
    bufCur := nofun
    connsShort := by simpa [hc] using h.connsShort
    dialExcl := fun d hd => by simpa [hc] using (h.dialExcl d hd).1 }

theorem inv_startSlow (hG : cfg.Good) (h : Inv s) : Inv (step cfg s .startSlow) := by
  rw [step_startSlow hG h.notWedged h.notBlocked]
  split
  · exact h
  · obtain ⟨hc, hr, _⟩ := St.not_busy ‹_›
    exact { h with
      curReg := fun k hk => by simp [hc] at hk
      bufOld := fun x hx => Nat.lt_succ_of_lt (h.bufOld x hx)
      regOld := Nat.lt_succ_self _
      dialExcl := fun k hk => by
        cases hk
        exact ⟨hc, hr, h.idle_conns hc hr, rfl, Nat.lt_succ_self _, fun x hx => Nat.ne_of_lt (h.bufOld x hx)⟩ }

theorem inv_dialDone (hG : cfg.Good) (h : Inv s) (k : Nat) : Inv (step cfg s (.dialDone k)) := by
  rw [step_dialDone hG h.lateNone k fun hd => (h.dialExcl k hd).2.2.2.2.2]
  split
  · obtain ⟨_, e2, e3, e4, e5, e6⟩ := h.dialExcl k ‹_›
    exact { h with
      connsOwned := fun j hj => by simp [e3] at hj; simp [hj]
      exclusive := fun _ => e2
      curReg := fun k' hk' => by cases hk'; exact ⟨e4, e5⟩
      bufCur := fun k' hk' => by cases hk'; exact e6
      connsShort := by simp [e3]
      dialExcl := nofun }
  · exact h

end

end Chf.Props.C19
