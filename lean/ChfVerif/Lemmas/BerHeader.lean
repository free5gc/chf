import ChfVerif.Lemmas.BerInt
import ChfVerif.Spec.BerSpec
/- identifier and length octets: what appendTagAndLen writes, as the readers of both sides need it (`lead_octet`,
   `highTag_spec`, `lenDigits_spec`: Lemmas/BerParseHeader.lean for the decoder, Lemmas/X690Header.lean for the reference reader),
   how long it is, and that it is the X.690 reference's minimal form (`header_eq`, `finish_eq`) -/
namespace Chf.Ber
open Chf Chf.X690

/-- the identifier octets and the length octets appendTagAndLen writes -/
def tagPart (first tag : Nat) : Bytes := if tag ≤ 30 then [first + tag] else (first + 31) :: highTag tag
def lenPart (len : Nat) : Bytes := if len ≤ 127 then [len] else (128 + (lenDigits len).length) :: lenDigits len

theorem header_split (cls : Nat) (c : Bool) (tag len : Nat) :
    header cls c tag len = tagPart (cls * 64 + (if c then 32 else 0)) tag ++ lenPart len := rfl

theorem tagPart_ne_nil (first tag : Nat) : ∃ x r, tagPart first tag = x :: r := by
  unfold tagPart; split <;> exact ⟨_, _, rfl⟩

theorem lead_fields (cls : Nat) (c : Bool) (b0 : Nat) (h : b0 / 32 = (cls * 64 + (if c then 32 else 0)) / 32) :
    b0 / 64 = cls ∧ decide (b0 / 32 % 2 = 1) = c := by
  cases c <;> simp at h ⊢ <;> omega

theorem lead_octet {first k : Nat} (hf : first % 32 = 0) (hk : k < 32) :
    (first + k) % 32 = k ∧ (first + k) / 32 = first / 32 := by omega

theorem highTag_eq (t : Nat) :
    ∃ init, digits 128 t 10 = init ++ [t % 128] ∧ highTag t = init.map (· + 128) ++ [t % 128] := by
  refine ⟨_, rfl, ?_⟩
  unfold highTag
  simp only [tagDigits_eq_digits, digits, List.dropLast_concat, List.getLastD_concat]

/-- … a minimal digit string that denotes the tag number, when `k + 1` digits (at most eleven) can hold it -/
theorem highTag_spec {k : Nat} (t : Nat) (hk : k ≤ 10) (ht : t < 128 ^ (k + 1)) :
    ∃ init last, highTag t = init.map (· + 128) ++ [last] ∧ (∀ d ∈ init ++ [last], d < 128) ∧
      (init ++ [last]).length ≤ k + 1 ∧ (1 ≤ t → (init ++ [last]).head? ≠ some 0) ∧
      ofDigits 128 (init ++ [last]) 0 = t := by
  obtain ⟨init, e, hT⟩ := highTag_eq t
  obtain ⟨hlt, hv, _, hlen, h0⟩ := digits_spec 128 (by decide) hk ht
  rw [e] at hlt hlen h0 hv
  exact ⟨init, _, hT, hlt, hlen, h0, hv⟩

/-- the long-form length octets: a minimal digit string that denotes the length, when `k + 1` octets (at most nine) can
    hold it -/
theorem lenDigits_spec {k : Nat} (len : Nat) (hk : k ≤ 8) (h : len < 256 ^ (k + 1)) :
    1 ≤ (lenDigits len).length ∧ (lenDigits len).length ≤ k + 1 ∧ (1 ≤ len → (lenDigits len).head? ≠ some 0) ∧
      ofDigits 256 (lenDigits len) 0 = len := by
  rw [lenDigits_eq_digits]
  obtain ⟨_, hv, hmin⟩ := digits_spec 256 (by decide) hk h
  exact ⟨hmin.1, hmin.2.1, hmin.2.2, hv⟩

theorem lenPart_length_pos (len : Nat) : 1 ≤ (lenPart len).length := by
  unfold lenPart; split <;> simp

/-- within 16 bits (the record length limit of the CDR file: what the size lemmas of Lemmas/RecordBer.lean need) -/
theorem lenPart_length_le_three {n : Nat} (h : n ≤ 65535) : (lenPart n).length ≤ 3 := by
  unfold lenPart lenDigits
  split
  · simp
  · split
    · rw [lenDigits, if_neg (by omega)]; simp
    · simp

theorem lenPart_length_eq_three {n : Nat} (h1 : 256 ≤ n) (h2 : n ≤ 65535) : (lenPart n).length = 3 := by
  unfold lenPart lenDigits
  rw [if_neg (by omega), if_pos (by omega), lenDigits, if_neg (by omega)]; rfl

/-- 22 = the leading octet and the eleven digits `highTag` can write (fuel 10), the length of the length and the nine digits
    `lenDigits` can write (fuel 8) -/
theorem header_length_le (cls : Nat) (c : Bool) (tag len : Nat) : (header cls c tag len).length ≤ 22 := by
  obtain ⟨init, e, hT⟩ := highTag_eq tag
  have h1 := e ▸ length_digits_le_fuel 128 10 tag
  have h2 := lenDigits_eq_digits 8 len ▸ length_digits_le_fuel 256 8 len
  rw [header_split, tagPart, lenPart, hT]
  generalize cls * 64 + (if c then 32 else 0) = first
  split <;> split <;> simp at h1 ⊢ <;> omega

theorem header_size_ge (cls : Nat) (c : Bool) (tag len : Nat) : 2 ≤ (header cls c tag len).length := by
  rw [header_split, List.length_append]
  have h1 : 1 ≤ (tagPart (cls * 64 + (if c then 32 else 0)) tag).length := by unfold tagPart; split <;> simp
  have h2 := lenPart_length_pos len
  omega

theorem tagPart_eq_identifier (cls : Nat) (c : Bool) (tag : Nat) (ht : tag < 128 ^ 11) :
    tagPart (cls * 64 + (if c then 32 else 0)) tag = identifier cls c tag := by
  unfold tagPart identifier
  obtain ⟨init, e, hT⟩ := highTag_eq tag
  rw [base128_eq_digits 10 tag ht, e, hT, Nat.mul_comm cls]
  by_cases h : tag ≤ 30
  · simp [h, Nat.lt_succ_of_le h]
  · simp [h, show ¬ tag < 31 by omega, Nat.add_comm 128]

theorem lenPart_eq_lengthOctets (len : Nat) (hl : len < 256 ^ 9) : lenPart len = lengthOctets len := by
  unfold lenPart lengthOctets
  rw [base256_eq_digits 8 len hl, lenDigits_eq_digits]
  by_cases h : len ≤ 127
  · simp [h, Nat.lt_succ_of_le h]
  · simp [h, show ¬ len < 128 by omega]

/-- identifier and length octets: the model's appendTagAndLen writes exactly the X.690 minimal forms -/
theorem header_eq (cls : Nat) (c : Bool) (tag len : Nat) (ht : tag < 18446744073709551616) (hl : len < 18446744073709551616) :
    header cls c tag len = identifier cls c tag ++ lengthOctets len := by
  rw [header_split, tagPart_eq_identifier cls c tag (Nat.lt_of_lt_of_le ht (by decide)),
    lenPart_eq_lengthOctets len (Nat.lt_of_lt_of_le hl (by decide))]

theorem tlv_length (cls : Nat) (c : Bool) (tag : Nat) (content : Bytes) :
    (tlv cls c tag content).length = (header cls c tag content.length).length + content.length := by
  unfold tlv; simp

theorem tlv_length_ge_two (cls : Nat) (c : Bool) (tag : Nat) (content : Bytes) : 2 ≤ (tlv cls c tag content).length := by
  rw [tlv_length]
  have := header_size_ge cls c tag content.length
  omega

theorem tlv_length_ge (cls : Nat) (c : Bool) (tag : Nat) (content : Bytes) : content.length ≤ (tlv cls c tag content).length := by
  unfold tlv; simp

/-- the three forms of tagging — none, IMPLICIT (the context tag replaces the universal one), EXPLICIT (it wraps the
    universal element) — on the codec's side and on the reference's -/
theorem tagging_cases (p : Params) (c : Bool) (tag : Nat) (content : Bytes) :
    (p.tagNumber = none ∧ finish p c tag content = tlv 0 c tag content ∧ tagged p c tag content = element 0 c tag content) ∨
    (∃ n, p.tagNumber = some n ∧ p.explicit = false ∧ finish p c tag content = tlv 2 c n content ∧
      tagged p c tag content = element 2 c n content) ∨
    (∃ n, p.tagNumber = some n ∧ p.explicit = true ∧ finish p c tag content = tlv 2 true n (tlv 0 c tag content) ∧
      tagged p c tag content = element 2 true n (element 0 c tag content)) := by
  unfold finish tagged
  cases p.tagNumber with
  | none => exact .inl ⟨rfl, rfl, rfl⟩
  | some n => cases p.explicit <;> simp

theorem finish_length_ge (p : Params) (c : Bool) (tag : Nat) (content : Bytes) :
    content.length ≤ (finish p c tag content).length := by
  rcases tagging_cases p c tag content with ⟨_, e, _⟩ | ⟨n, _, _, e, _⟩ | ⟨n, _, _, e, _⟩ <;> rw [e]
  · exact tlv_length_ge ..
  · exact tlv_length_ge ..
  · exact Nat.le_trans (tlv_length_ge 0 c tag content) (tlv_length_ge ..)

theorem tlv_eq (cls : Nat) (c : Bool) (tag : Nat) (content : Bytes)
    (ht : tag < 18446744073709551616) (hl : (tlv cls c tag content).length < 18446744073709551616) :
    tlv cls c tag content = element cls c tag content := by
  unfold tlv element
  rw [header_eq cls c tag _ ht (Nat.lt_of_le_of_lt (tlv_length_ge cls c tag content) hl)]

theorem paramsOK_tag {p : Params} {n : Nat} (hp : paramsOK p = true) (hn : p.tagNumber = some n) :
    n < 18446744073709551616 := by
  simp [paramsOK, hn] at hp; exact hp.1

theorem paramsOK_untag {p : Params} (hp : paramsOK p = true) : paramsOK { p with tagNumber := none } = true := by
  simp [paramsOK] at hp ⊢; exact hp.2

theorem finish_eq (p : Params) (c : Bool) (tag : Nat) (content : Bytes) (hp : paramsOK p = true)
    (ht : tag < 18446744073709551616) (hl : (finish p c tag content).length < 18446744073709551616) :
    finish p c tag content = tagged p c tag content := by
  rcases tagging_cases p c tag content with ⟨_, ef, et⟩ | ⟨n, hn, _, ef, et⟩ | ⟨n, hn, _, ef, et⟩ <;> rw [ef] at hl ⊢ <;> rw [et]
  · exact tlv_eq _ _ _ _ ht hl
  · exact tlv_eq _ _ _ _ (paramsOK_tag hp hn) hl
  · rw [← tlv_eq 0 c tag content ht (Nat.lt_of_le_of_lt (tlv_length_ge ..) hl)]
    exact tlv_eq 2 true n _ (paramsOK_tag hp hn) hl

end Chf.Ber
