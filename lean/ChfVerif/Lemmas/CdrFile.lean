import ChfVerif.Lemmas.Bits
import ChfVerif.Spec.TS32297
/- the CDR file codec on the octets `encodeFile` writes: how many they are (C15, C03), and that the model decoder brings the
   structure back (C14, C03) -/
namespace Chf.CdrFile
open Chf Chf.TS32297

theorem packId_eq {rel ver : Nat} (h1 : rel < 8) (h2 : ver < 32) : packId rel ver = rel * 32 + ver := by
  unfold packId
  have : (rel <<< 5) % 256 = rel <<< 5 := by rw [Nat.shiftLeft_eq]; omega
  rw [this, shl_or_of_lt (by omega)]

theorem packId_lt {rel ver : Nat} (h1 : rel < 8) (h2 : ver < 32) : packId rel ver < 256 := by
  rw [packId_eq h1 h2]; omega

theorem packId_shr {rel ver : Nat} (h1 : rel < 8) (h2 : ver < 32) : packId rel ver >>> 5 = rel := by
  rw [packId_eq h1 h2, Nat.shiftRight_eq_div_pow]; exact mul_add_div_of_lt h2

theorem packId_and {rel ver : Nat} (h1 : rel < 8) (h2 : ver < 32) : packId rel ver &&& 31 = ver := by
  rw [packId_eq h1 h2, Nat.and_two_pow_sub_one_eq_mod _ 5]; exact Nat.mul_add_mod_of_lt h2

theorem packTs_eq {t : TimeStamp} (h : t.WF) :
    packTs t = (((((t.month * 32 + t.date) * 32 + t.hour) * 64 + t.minute) * 2 + t.sign) * 32 + t.hdev) * 64 +
      t.mdev := by
  obtain ⟨h1, h2, h3, h4, h5, h6, h7⟩ := h
  have e0 : (t.month <<< 28) % 4294967296 = t.month <<< 28 := by rw [Nat.shiftLeft_eq]; omega
  -- field by field from the top: `x <<< (j + k) ||| y <<< k = (x * 2 ^ j + y) <<< k`
  rw [packTs, e0, shl_or_shl 5 23 h2, shl_or_shl 5 18 h3, shl_or_shl 6 12 h4, shl_or_shl 1 11 h5, shl_or_shl 5 6 h6,
    shl_or_of_lt h7]

theorem packTs_lt {t : TimeStamp} (h : t.WF) : packTs t < 4294967296 := by
  rw [packTs_eq h]; obtain ⟨h1, h2, h3, h4, h5, h6, h7⟩ := h; omega

/-- msb first `month 4 | date 5 | hour 5 | minute 6 | sign 1 | hour dev 5 | min dev 6`: each field of the
    specification's reading is what is left after the lower ones are divided away -/
theorem timeStamp_eq (x : Nat) : timeStamp x =
    { mdev := x % 64, hdev := x / 64 % 32, sign := x / 64 / 32 % 2, minute := x / 64 / 32 / 2 % 64,
      hour := x / 64 / 32 / 2 / 64 % 32, date := x / 64 / 32 / 2 / 64 / 32 % 32,
      month := x / 64 / 32 / 2 / 64 / 32 / 32 % 16 } := by
  simp only [timeStamp, field, Nat.div_div_eq_div_mul, Nat.pow_zero, Nat.div_one]

theorem timeStamp_packTs {t : TimeStamp} (h : t.WF) : timeStamp (packTs t) = t := by
  rw [packTs_eq h, timeStamp_eq]
  obtain ⟨h1, h2, h3, h4, h5, h6, h7⟩ := h
  simp only [mul_add_div_of_lt h7, mul_add_div_of_lt h6, mul_add_div_of_lt h5, mul_add_div_of_lt h4,
    mul_add_div_of_lt h3, mul_add_div_of_lt h2, Nat.mul_add_mod_of_lt h7, Nat.mul_add_mod_of_lt h6,
    Nat.mul_add_mod_of_lt h5, Nat.mul_add_mod_of_lt h4, Nat.mul_add_mod_of_lt h3, Nat.mul_add_mod_of_lt h2,
    Nat.mod_eq_of_lt h1]

theorem unpackTs_eq_timeStamp {x : Nat} (h : x < 4294967296) : unpackTs x = timeStamp x := by
  have hm : x / 2 ^ 28 < 16 := Nat.div_lt_of_lt_mul (show x < 2 ^ 28 * 16 from h)
  unfold unpackTs timeStamp field
  congr 1
  · rw [Nat.shiftRight_eq_div_pow, Nat.mod_eq_of_lt (Nat.lt_trans hm (by decide)), Nat.mod_eq_of_lt hm]
  · exact shr_and x 23 5
  · exact shr_and x 18 5
  · exact shr_and x 12 6
  · exact shr_and x 11 1
  · exact shr_and x 6 5
  · exact shr_and x 0 6

theorem unpackTs_packTs {t : TimeStamp} (h : t.WF) : unpackTs (packTs t) = t := by
  rw [unpackTs_eq_timeStamp (packTs_lt h), timeStamp_packTs h]

theorem fixedPart_length {h : FileHeader} (hip : h.ip.length = 20) : (fixedPart h).length = 50 := by
  simp only [fixedPart, be32, be16, List.length_append, List.length_cons, List.length_nil, hip]

def extCount (rel : Nat) : Nat := if rel = 7 then 1 else 0

theorem length_ext (rel e : Nat) : (if rel = 7 then [e] else []).length = extCount rel := by
  unfold extCount; split <;> rfl

theorem encodeHeader_length (h : FileHeader) (hip : h.ip.length = 20) :
    (encodeHeader h).length = 52 + h.filter.length + h.ext.length + extCount h.highRel + extCount h.lowRel := by
  simp only [encodeHeader, extPart, List.length_append, fixedPart_length hip, be16, List.length_cons, List.length_nil,
    length_ext]
  omega

def cdrsLength : List Cdr → Nat
  | [] => 0
  | c :: r => 4 + extCount c.hdr.rel + c.bytes.length + cdrsLength r

theorem encodeCdrs_length (cs : List Cdr) : (encodeCdrs cs).length = cdrsLength cs := by
  induction cs with
  | nil => rfl
  | cons c r ih =>
    simp only [encodeCdrs, cdrsLength, List.length_append, ih, encodeCdr, encodeCdrHeader, be16, List.length_cons,
      List.length_nil, length_ext]

theorem decodeFixed_fixedPart {h : FileHeader} (hw : h.WF) (rest : Bytes) :
    decodeFixed (fixedPart h ++ rest) =
      some { h with filter := [], lenExt := 0, ext := [], highExt := 0, lowExt := 0 } := by
  obtain ⟨w1, w2, w3, w4, w5, w6, w7, w8, w9, w10, _, w12, _, _, w15, _⟩ := hw
  unfold decodeFixed fixedPart be32 be16
  -- the address as its 20 octets: the decoder's two `take`s then meet explicit octets and are read field by field
  generalize h.ip = ip at w12 ⊢
  match ip, w12 with
  | [_, _, _, _, _, _, _, _, _, _, _, _, _, _, _, _, _, _, _, _], _ =>
    simp only [List.cons_append, List.nil_append, List.take_succ_cons, List.take_zero, List.drop_succ_cons,
      List.drop_zero, rd32_be32 w1, rd32_be32 w2, rd32_be32 w9, rd32_be32 w10, rd16_be16 w15, packId_shr w3 w4,
      packId_and w3 w4, packId_shr w5 w6, packId_and w5 w6, rd32_be32 (packTs_lt w7), rd32_be32 (packTs_lt w8),
      unpackTs_packTs w7, unpackTs_packTs w8]

/-! ### the records: `decodeCdrs` reads from `tail` on and nowhere else -/

theorem decodeCdrs_append_add (p s : Bytes) : ∀ n k, decodeCdrs (p ++ s) n (p.length + k) = decodeCdrs s n k
  | 0, _ => rfl
  | n + 1, k => by
    simp only [decodeCdrs, Nat.add_assoc, at?_append_add, slice_append_add, decodeCdrs_append_add p s n]

theorem decodeCdrs_append_length (p s : Bytes) (n : Nat) : decodeCdrs (p ++ s) n p.length = decodeCdrs s n 0 :=
  decodeCdrs_append_add p s n 0

theorem decodeCdrs_cons_succ (x : Nat) (r : Bytes) (n k : Nat) :
    decodeCdrs (x :: r) n (k + 1) = decodeCdrs r n k := by
  rw [Nat.add_comm]; exact decodeCdrs_append_add [x] r n k

theorem decodeCdrs_encodeCdr {c : Cdr} (hw : c.WF) (s : Bytes) (n : Nat) :
    decodeCdrs (encodeCdr c ++ s) (n + 1) 0 = (decodeCdrs s n 0).map (c :: ·) := by
  obtain ⟨⟨g1, g2, g3, g4, g5, g6, g7⟩, hlen, _⟩ := hw
  obtain ⟨⟨len, rel, ver, fmt, ts, relExt⟩, bytes⟩ := c
  simp only at *
  subst hlen
  rw [decodeCdrs, encodeCdr, encodeCdrHeader, be16]
  -- the four header octets are read at literal offsets of an explicit list …
  simp only [List.cons_append, List.nil_append, Nat.zero_add, slice_zero_two, at?_cons_succ, at?_cons_zero, rd16_be16 g1,
    packId_shr g2 g3, packId_and g2 g3, packId_shr g4 g5, packId_and g4 g5]
  -- … then the extension octet if there is one, the payload, and the rest behind them
  by_cases h7 : rel = 7 <;>
    simp only [h7, g7, ne_eq, not_false_eq_true, if_true, if_false, List.cons_append, List.nil_append, at?_cons_zero,
      Nat.add_comm 5 bytes.length, Nat.add_comm 4 bytes.length, slice_cons_succ, decodeCdrs_cons_succ, slice_zero_append,
      decodeCdrs_append_length] <;>
    cases decodeCdrs s n 0 <;> rfl

theorem decodeCdrs_encode (cs : List Cdr) (hw : ∀ c ∈ cs, c.WF) (rest : Bytes) :
    decodeCdrs (encodeCdrs cs ++ rest) cs.length 0 = some cs := by
  induction cs with
  | nil => rfl
  | cons c r ih =>
    rw [encodeCdrs, List.append_assoc, List.length_cons, decodeCdrs_encodeCdr (hw c List.mem_cons_self),
      ih fun x hx => hw x (List.mem_cons_of_mem c hx)]
    rfl

/-- the decoder goes by the lengths the header gives: what follows the file is not looked at -/
theorem decodeFile_encodeFile (f : File) (hw : f.WF) (rest : Bytes) : decodeFile (encodeFile f ++ rest) = some f := by
  obtain ⟨hh, hn, hc⟩ := hw
  have hd := decodeCdrs_encode f.cdrs hc rest
  have hfix := decodeFixed_fixedPart hh
  obtain ⟨_, _, _, _, _, _, _, _, _, _, _, w12, _, _, _, w16, _, w18, w19, _, _, _, w23, w24⟩ := hh
  have hF := fixedPart_length w12
  unfold decodeFile encodeFile encodeHeader extPart
  simp only [List.append_assoc]
  rw [hfix]
  generalize fixedPart f.hdr = F at hF ⊢
  obtain ⟨⟨fileLength, headerLength, highRel, highVer, lowRel, lowVer, openTs, lastTs, numCdrs, fileSeq,
    closure, ip, lost, lenFilter, filter, lenExt, ext, highExt, lowExt⟩, cs⟩ := f
  simp only at *
  -- every offset the decoder computes becomes a sum of the lengths of the parts written before it …
  subst hn w16 w19
  rw [← hF]
  -- … so each read moves through the parts in front of it (`_append_add`, `_cons_succ`) to the start of its own part;
  -- `Nat.add_comm 2` puts the two octets of a length field last, where `_cons_succ` can count them off
  by_cases hH : highRel = 7 <;> by_cases hL : lowRel = 7 <;>
    simp only [hH, hL, w23, w24, ne_eq, not_false_eq_true, if_true, if_false, be16, Nat.add_assoc, Nat.add_comm 2,
      List.cons_append, List.nil_append, slice_append_add, slice_append_length, slice_zero_append, slice_zero_two,
      slice_cons_succ, rd16_be16 w18, at?_append_add, at?_append_length, at?_cons_succ, at?_cons_zero,
      decodeCdrs_append_add, decodeCdrs_append_length, decodeCdrs_cons_succ, hd]

end Chf.CdrFile
