import ChfVerif.Model.Router
/-
  A pure path of the decision function (`APath.pure`) in closed form: whether it is taken and whether it accepts are
  written without the adversary.  Statelessness (C13) is read off these.
-/
namespace Chf.Router

theorem all_congr_mem {α : Type} {l : List α} {f g : α → Bool} (h : ∀ x ∈ l, f x = g x) : l.all f = l.all g := by
  induction l with
  | nil => rfl
  | cons a r ih => simp only [List.all_cons, h a (List.mem_cons_self ..), ih fun x hx => h x (List.mem_cons_of_mem _ hx)]

variable {p : APath}

theorem APath.pure_evs (hp : p.pure = true) {e : AEv} (he : e ∈ p.evs) : (∃ t, e = .notRequired t) ∨ e = .verifyAssign := by
  simp only [APath.pure, Bool.and_eq_true, List.all_eq_true] at hp
  have := hp.1 e he
  cases e with
  | notRequired t => exact .inl ⟨t, rfl⟩
  | verifyAssign => exact .inr rfl
  | _ => cases this

theorem APath.pure_no_unread (hp : p.pure = true) : p.evs.any AEv.isUnread = false :=
  List.any_eq_false.2 fun e he => by rcases APath.pure_evs hp he with ⟨t, rfl⟩ | rfl <;> simp [AEv.isUnread]

theorem APath.pure_taken (hp : p.pure = true) (adv : Adversary) (required : Bool) :
    p.taken adv required = p.evs.all (· != .notRequired required) :=
  all_congr_mem fun e he => by
    rcases APath.pure_evs hp he with ⟨t, rfl⟩ | rfl
    · cases required <;> cases t <;> rfl
    · rfl

theorem APath.pure_accepts (hp : p.pure = true) (adv : Adversary) (verifies : Bool) :
    p.accepts adv verifies = (p.ret == .nil || verifies) := by
  have hno := APath.pure_no_unread hp
  simp only [APath.pure, Bool.and_eq_true] at hp
  have hret := hp.2
  unfold APath.accepts
  cases hr : p.ret with
  | nil => rfl
  | verify => rfl
  | errVar => rw [hr] at hret; simp only [hret, hno]; rfl
  | other src => rw [hr] at hret; cases hret

theorem APath.pure_nil (hp : p.pure = true) (hr : p.ret = .nil) : .notRequired true ∈ p.evs := by
  simp only [APath.pure, Bool.and_eq_true, hr] at hp
  simpa using hp.2

theorem decision_pure {paths : List APath} (h : ∀ p ∈ paths, p.pure = true) (adv : Adversary) (required verifies : Bool) :
    decision paths adv required verifies =
      (paths.find? fun p => p.evs.all (· != .notRequired required)).map fun p => p.ret == .nil || verifies := by
  induction paths with
  | nil => rfl
  | cons p r ih =>
    have hp := h p (List.mem_cons_self ..)
    have ihr := ih fun q hq => h q (List.mem_cons_of_mem _ hq)
    simp only [decision, List.find?_cons, APath.pure_taken hp] at ihr ⊢
    split
    · simp [APath.pure_accepts hp]
    · exact ihr

end Chf.Router
