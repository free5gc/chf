import ChfVerif.Lemmas.BerHeader
import ChfVerif.Lemmas.BerShape
/-
  C04: the encoder against the reference encoder, by `shape_induct`.

  * no panic (`marshal_no_panic`) on types whose OPTIONAL members are nil-able;
  * when the encoder returns an error.  Position independence: a SEQUENCE OF is an error exactly when SOME element is
    one, the first, a middle or the last alike (`marshalElems_isErr`).  Exactness: unless it panics the encoder answers
    with octets exactly when the independent X.690 encoder has an encoding for the value (`marshal_agree`, for every
    type; with `marshal_no_panic` it gives `marshal_isOk_eq_encode_isSome`);
  * the octets (`marshal_eq_encode_all`): what the encoder returns is the reference encoding.
  `Agree` and `Same` are the two relations between an outcome of the encoder and one of the reference; each is handed
  through the shapes by its `err` / `ite` / `map` / `cat` rules, so that the two inductions read alike.
-/
namespace Chf.Ber
open Chf Chf.X690

/-! ### no panic -/

-- the only panic of the encoder is IsNil on an OPTIONAL member of a kind without nil (`marshalFields_cons`);
-- every other shape hands on what its parts return
theorem marshal_no_panic :
    (∀ t p v, optNilable t = true → marshal t p v ≠ .panic) ∧
    (∀ t p vs, optNilable t = true → marshalElems t p vs ≠ .panic) ∧
    (∀ fs vs, optNilableFs fs = true → marshalFields fs vs ≠ .panic) ∧
    (∀ fs vs n, optNilableFs fs = true → marshalAlt fs vs n ≠ .panic) :=
  shape_induct {
    flat := fun t p v h _ => by rw [marshal_flat h]; split <;> simp
    ptr := fun t p v hv ih ho => by rw [marshal_ptr hv]; exact ih ho
    wrap := fun t p v ih ho => by rw [marshal_wrap]; exact ih ho
    choice := fun alts p k vs ih ho => by
      rw [marshal_choice]
      refine Res.ite_ne_panic nofun ?_
      split
      · exact ih ho
      · exact Res.map_ne_panic (ih ho)
    struct := fun fs p vs ih ho => by
      rw [marshal_struct]; exact Res.ite_ne_panic nofun (Res.map_ne_panic (ih ho))
    list := fun t p vs ih ho => by rw [marshal_list]; exact Res.map_ne_panic (ih ho)
    elemsNil := fun t p _ => by simp [marshalElems_nil]
    elemsCons := fun t p v vs ih1 ih2 ho => by rw [marshalElems_cons]; exact Res.map₂_ne_panic (ih1 ho) (ih2 ho)
    membersNil := fun vs _ => by simp [marshalFields_nil]
    membersShort := fun p t r _ => by simp [marshalFields_short]
    membersCons := fun p t r v vs ih1 ih2 ho => by
      simp only [optNilableFs, Bool.and_eq_true, Bool.or_eq_true, Bool.not_eq_true'] at ho
      obtain ⟨⟨hn, ht⟩, hr⟩ := ho
      rw [marshalFields_cons, if_neg (by intro h; rcases hn with hn | hn <;> simp_all)]
      exact Res.ite_ne_panic (ih2 hr) (Res.ite_ne_panic nofun (Res.map₂_ne_panic (ih1 ht) (ih2 hr)))
    altNil := fun fs vs n h _ => by simp [marshalAlt_nil h]
    altZero := fun p t r v vs ih ho => by
      rw [marshalAlt_zero]; exact ih (by simp only [optNilableFs, Bool.and_eq_true] at ho; exact ho.1.2)
    altSucc := fun p t r v vs n ih ho => by
      rw [marshalAlt_succ]; exact ih (by simp only [optNilableFs, Bool.and_eq_true] at ho; exact ho.2) }

/-! ### errors -/

def Vals.any (f : Val → Bool) : Vals → Bool
  | .nil => false
  | .cons v r => f v || Vals.any f r

def Vals.length : Vals → Nat
  | .nil => 0
  | .cons _ r => r.length + 1

/-- elements of a SEQUENCE OF: no panic, and an error exactly when some element is an error, wherever it stands -/
theorem marshalElems_isErr (t : Ty) (p : Params) (hnp : ∀ v, marshal t p v ≠ .panic) :
    ∀ vs, marshalElems t p vs ≠ .panic ∧
      (marshalElems t p vs).isErr = vs.any (fun v => (marshal t p v).isErr)
  | .nil => by rw [marshalElems_nil]; exact ⟨nofun, rfl⟩
  | .cons v vs => by
    have ih := marshalElems_isErr t p hnp vs
    rw [marshalElems_cons, Res.cat, Res.map₂_isErr (hnp v) ih.1, ih.2]
    exact ⟨Res.map₂_ne_panic (hnp v) ih.1, rfl⟩

/-- the encoder's outcome `r` against the reference's `o`, as far as it holds of every type and value:
    unless the encoder panics it answers with octets exactly when the reference has an encoding -/
def Agree (r : Res Bytes) (o : Option Bytes) : Prop := r ≠ .panic → r.isOk = o.isSome

section
variable {a b r : Res Bytes} {a' b' o : Option Bytes}

theorem Agree.err : Agree .err none := fun _ => rfl

theorem Agree.ite {c : Prop} [Decidable c] (ha : Agree a a') (hb : Agree b b') :
    Agree (if c then a else b) (if c then a' else b') := by
  split <;> assumption

theorem Agree.map (f g : Bytes → Bytes) (h : Agree r o) : Agree (r.map f) (o.map g) := by
  intro hp; rw [Res.isOk_map, Option.isSome_map]; exact h (mt Res.map_eq_panic.mpr hp)

theorem Agree.cat (ha : Agree a a') (hb : Agree b b') : Agree (a.cat b) (X690.cat a' b') := by
  intro hp
  rw [Res.isOk_map₂, isSome_cat]
  -- the second outcome counts only behind a first that is `ok`
  cases a with
  | panic => exact absurd rfl hp
  | err => rw [← ha nofun]; rfl
  | ok x => rw [← ha nofun, ← hb fun h => hp (by rw [h]; rfl)]

end

/-- the two encoders agree on WHETHER there is an encoding, for every type: nil-able OPTIONAL members or not -/
theorem marshal_agree :
    (∀ t p v, Agree (marshal t p v) (encode t p v)) ∧
    (∀ t p vs, Agree (marshalElems t p vs) (encodeList t p vs)) ∧
    (∀ fs vs, Agree (marshalFields fs vs) (encodeMembers fs vs)) ∧
    (∀ fs vs n, Agree (marshalAlt fs vs n) (encodeAlt fs vs n)) :=
  shape_induct {
    flat := fun t p v h => by
      rw [marshal_flat h, encode_flat h]; cases leaf t p v <;> exact fun _ => rfl
    ptr := fun t p v hv ih => by rw [marshal_ptr hv, encode_ptr hv]; exact ih
    wrap := fun t p v ih => by rw [marshal_wrap, encode_wrap]; exact ih
    choice := fun alts p k vs ih => by
      rw [marshal_choice, encode_choice]
      refine .ite .err ?_
      cases p.tagNumber with
      | none => exact ih
      | some n => exact ih.map _ _
    struct := fun fs p vs ih => by rw [marshal_struct, encode_struct]; exact .ite .err (ih.map _ _)
    list := fun t p vs ih => by rw [marshal_list, encode_list]; exact ih.map _ _
    elemsNil := fun t p => by rw [marshalElems_nil, encodeList_nil]; exact fun _ => rfl
    elemsCons := fun t p v vs ih1 ih2 => by rw [marshalElems_cons, encodeList_cons]; exact ih1.cat ih2
    membersNil := fun vs => by rw [marshalFields_nil, encodeMembers_nil]; exact fun _ => rfl
    membersShort := fun p t r => by rw [marshalFields_short, encodeMembers_short]; exact .err
    membersCons := fun p t r v vs ih1 ih2 => by
      rw [marshalFields_cons, encodeMembers_cons]
      split
      · exact fun h => absurd rfl h
      · exact .ite ih2 (.ite .err (ih1.cat ih2))
    altNil := fun fs vs n h => by rw [marshalAlt_nil h, encodeAlt_nil h]; exact .err
    altZero := fun p t r v vs ih => by rw [marshalAlt_zero, encodeAlt_zero]; exact ih
    altSucc := fun p t r v vs n ih => by rw [marshalAlt_succ, encodeAlt_succ]; exact ih }

/-- the encoder answers with octets exactly when the reference encoder has an encoding -/
theorem marshal_isOk_eq_encode_isSome (t : Ty) (p : Params) (v : Val) (ht : optNilable t = true) :
    (marshal t p v).isOk = (encode t p v).isSome :=
  marshal_agree.1 t p v (marshal_no_panic.1 t p v ht)

def Vals.append : Vals → Vals → Vals
  | .nil, w => w
  | .cons v r, w => .cons v (Vals.append r w)

theorem Vals.any_append (f : Val → Bool) : ∀ (a b : Vals), (a.append b).any f = (a.any f || b.any f)
  | .nil, b => by simp [Vals.append, Vals.any]
  | .cons v r, b => by simp [Vals.append, Vals.any, Vals.any_append f r b, Bool.or_assoc]

/-! ### octets -/

/-- the encoder's outcome `r` against the reference's `o`, octet for octet: what the encoder returns within the codec's
    uint64 lengths is the reference encoding.  The two sides differ in the header routines (`finish_eq`, `tlv_eq`: equal
    below 2^64) and in the INTEGER contents (`intBytes_eq`: equal on int64) -/
def Same (r : Res Bytes) (o : Option Bytes) : Prop := ∀ b, r = .ok b → b.length < 18446744073709551616 → o = some b

section
variable {a b r : Res Bytes} {a' b' o : Option Bytes}

theorem Same.err : Same .err o := nofun

theorem Same.ok {x y : Bytes} (h : x.length < 18446744073709551616 → x = y) : Same (.ok x) (some y) :=
  fun _ hb hl => by cases hb; rw [h hl]

theorem Same.ite {c : Prop} [Decidable c] (ha : Same a a') (hb : Same b b') :
    Same (if c then a else b) (if c then a' else b') := by
  split <;> assumption

/-- under a header: the contents are never longer than the whole, so the length bound passes to them -/
theorem Same.map {f g : Bytes → Bytes} (hle : ∀ c, c.length ≤ (f c).length)
    (hfg : ∀ c, (f c).length < 18446744073709551616 → f c = g c) (h : Same r o) : Same (r.map f) (o.map g) := by
  intro b hb hl
  obtain ⟨c, rfl, rfl⟩ := Res.map_eq_ok hb
  rw [h c rfl (Nat.lt_of_le_of_lt (hle c) hl), Option.map_some, hfg c hl]

theorem Same.cat (ha : Same a a') (hb : Same b b') : Same (a.cat b) (X690.cat a' b') := by
  intro c hc hl
  obtain ⟨x, y, rfl, rfl, rfl⟩ := Res.map₂_eq_ok hc
  rw [List.length_append] at hl
  rw [ha x rfl (by omega), hb y rfl (by omega)]; rfl

end

theorem marshal_eq_encode_all :
    (∀ t p v, tagsOK t = true → paramsOK p = true → valOK v = true → Same (marshal t p v) (encode t p v)) ∧
    (∀ t p vs, tagsOK t = true → paramsOK p = true → valsOK vs = true → Same (marshalElems t p vs) (encodeList t p vs)) ∧
    (∀ fs vs, tagsOKFs fs = true → valsOK vs = true → Same (marshalFields fs vs) (encodeMembers fs vs)) ∧
    (∀ fs vs n, tagsOKFs fs = true → valsOK vs = true → Same (marshalAlt fs vs n) (encodeAlt fs vs n)) :=
  shape_induct {
    flat := fun t p v h ht hp hv => by
      rw [marshal_flat h, encode_flat h]
      cases hlf : leaf t p v with
      | none => exact .err
      | some l =>
        exact .ok fun hl => by
          rw [finish_eq p _ _ _ hp (leaf_tag_lt hlf ht hp) hl,
            leaf_contents hlf fun i hi => intBytes_eq i (by simpa [hi, valOK, int64] using hv)]
    ptr := fun t p v hn ih ht hp hv => by rw [marshal_ptr hn, encode_ptr hn]; exact ih ht hp hv
    wrap := fun t p v ih ht hp hv => by rw [marshal_wrap, encode_wrap]; exact ih ht hp hv
    choice := fun alts p k vs ih ht hp hv => by
      rw [marshal_choice, encode_choice]
      refine .ite .err ?_
      cases htn : p.tagNumber with
      | none => exact ih ht hv
      | some n =>
        exact (ih ht hv).map (tlv_length_ge 2 true n) fun c => tlv_eq 2 true n c (paramsOK_tag hp htn)
    struct := fun fs p vs ih ht hp hv => by
      rw [marshal_struct, encode_struct]
      exact .ite .err ((ih ht hv).map (finish_length_ge p true _) fun c => finish_eq p _ _ c hp seqTag_lt)
    list := fun t p vs ih ht hp hv => by
      rw [marshal_list, encode_list]
      exact (ih ht (paramsOK_untag hp) hv).map (finish_length_ge p true _) fun c => finish_eq p _ _ c hp seqTag_lt
    elemsNil := fun t p _ _ _ => by rw [marshalElems_nil, encodeList_nil]; exact .ok fun _ => rfl
    elemsCons := fun t p v vs ih1 ih2 ht hp hv => by
      simp only [valsOK, Bool.and_eq_true] at hv
      rw [marshalElems_cons, encodeList_cons]; exact (ih1 ht hp hv.1).cat (ih2 ht hp hv.2)
    membersNil := fun vs _ _ => by rw [marshalFields_nil, encodeMembers_nil]; exact .ok fun _ => rfl
    membersShort := fun p t r _ _ => by rw [marshalFields_short, encodeMembers_short]; exact .err
    membersCons := fun p t r v vs ih1 ih2 ht hv => by
      simp only [valsOK, tagsOKFs, Bool.and_eq_true] at hv ht
      rw [marshalFields_cons, encodeMembers_cons]
      split
      · exact nofun
      · exact .ite (ih2 ht.2 hv.2) (.ite .err ((ih1 ht.1.2 ht.1.1 hv.1).cat (ih2 ht.2 hv.2)))
    altNil := fun fs vs n h _ _ => by rw [marshalAlt_nil h, encodeAlt_nil h]; exact .err
    altZero := fun p t r v vs ih ht hv => by
      simp only [valsOK, tagsOKFs, Bool.and_eq_true] at hv ht
      rw [marshalAlt_zero, encodeAlt_zero]; exact ih ht.1.2 ht.1.1 hv.1
    altSucc := fun p t r v vs n ih ht hv => by
      simp only [valsOK, tagsOKFs, Bool.and_eq_true] at hv ht
      rw [marshalAlt_succ, encodeAlt_succ]; exact ih ht.2 hv.2 }

end Chf.Ber
