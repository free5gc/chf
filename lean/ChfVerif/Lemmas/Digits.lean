/- Minimal big-endian base-`b` digits with fuel (`digits`) and the Horner value of a digit string (`ofDigits`), once for
   every use: the tag-number and length loops of the BER codec and of its reference (Lemmas/BerDigits.lean), the decimal
   sequence number of a session reference (Lemmas/ChargingSids.lean). -/
namespace Chf

/-- the digits of `t`, most significant first, no leading zero, at most `f + 1` of them -/
def digits (b t : Nat) : Nat → List Nat
  | 0 => [t % b]
  | f + 1 => (if t < b then [] else digits b (t / b) f) ++ [t % b]

/-- Horner value of a digit string, continuing from `acc` -/
def ofDigits (b : Nat) (ds : List Nat) (acc : Nat) : Nat := ds.foldl (fun a d => a * b + d) acc

theorem ofDigits_append (b : Nat) (ds : List Nat) (d acc : Nat) :
    ofDigits b (ds ++ [d]) acc = ofDigits b ds acc * b + d := by
  simp [ofDigits]

theorem le_ofDigits (b : Nat) (hb : 1 ≤ b) (ds : List Nat) : ∀ acc, acc ≤ ofDigits b ds acc := by
  induction ds with
  | nil => intro acc; exact Nat.le_refl _
  | cons d r ih =>
    intro acc
    exact Nat.le_trans (Nat.le_trans (Nat.le_mul_of_pos_right acc hb) (Nat.le_add_right _ d)) (ih _)

theorem div_lt_pow {b t f : Nat} (h : t < b ^ (f + 1)) : t / b < b ^ f :=
  Nat.div_lt_of_lt_mul (Nat.pow_succ' ▸ h)

theorem digits_lt (b : Nat) (hb : 0 < b) (f : Nat) : ∀ t, ∀ d ∈ digits b t f, d < b := by
  induction f with
  | zero => intro t d hd; rw [digits, List.mem_singleton] at hd; exact hd ▸ Nat.mod_lt _ hb
  | succ f ih =>
    intro t d hd
    rw [digits, List.mem_append, List.mem_singleton] at hd
    rcases hd with hd | hd
    · split at hd
      · cases hd
      · exact ih _ d hd
    · exact hd ▸ Nat.mod_lt _ hb

theorem ofDigits_digits (b f : Nat) : ∀ t, t < b ^ (f + 1) → ofDigits b (digits b t f) 0 = t := by
  induction f with
  | zero => intro t h; simp [digits, ofDigits, Nat.mod_eq_of_lt (Nat.pow_one b ▸ h)]
  | succ f ih =>
    intro t h
    rw [digits, ofDigits_append]
    split
    · simp [ofDigits, Nat.mod_eq_of_lt ‹t < b›]
    · rw [ih _ (div_lt_pow h)]; exact Nat.div_add_mod' t b

theorem length_digits_le_fuel (b f : Nat) : ∀ t, (digits b t f).length ≤ f + 1 := by
  induction f with
  | zero => intro t; simp [digits]
  | succ f ih => intro t; have := ih (t / b); rw [digits]; split <;> simp <;> omega

/-- all of it for a number below `b ^ (k + 1)` with fuel for that many digits: the digit string denotes the number and is
    minimal (at least one digit, at most `k + 1`, the first not zero unless the number is).  This is what a reader of
    identifier or length octets, on the model's side or the reference's, needs to know of what the writer wrote -/
theorem digits_spec (b : Nat) (hb : 0 < b) {f k t : Nat} (hk : k ≤ f) (h : t < b ^ (k + 1)) :
    (∀ d ∈ digits b t f, d < b) ∧ ofDigits b (digits b t f) 0 = t ∧ 1 ≤ (digits b t f).length ∧
      (digits b t f).length ≤ k + 1 ∧ (1 ≤ t → (digits b t f).head? ≠ some 0) := by
  refine ⟨digits_lt b hb f t, ofDigits_digits b f t (Nat.lt_of_lt_of_le h (Nat.pow_le_pow_right hb (by omega))), ?_⟩
  induction f generalizing t k with
  | zero =>
    obtain rfl : k = 0 := by omega
    rw [Nat.pow_one] at h
    simp [digits, Nat.mod_eq_of_lt h]; omega
  | succ f ih =>
    rw [digits]
    split
    · simp [Nat.mod_eq_of_lt ‹t < b›]; omega
    · cases k with
      | zero => exact absurd (Nat.pow_one b ▸ h) ‹¬ t < b›
      | succ k =>
        -- the digits of `t / b` come first: theirs is the leading digit, and there is one of them at least
        obtain ⟨h1, hl, h0⟩ := ih (k := k) (by omega) (div_lt_pow h)
        have h0 := h0 (Nat.div_pos (Nat.le_of_not_lt ‹¬ t < b›) hb)
        refine ⟨by simp, by simp; omega, fun _ => ?_⟩
        cases hd : digits b (t / b) f with
        | nil => rw [hd] at h1; cases h1
        | cons x r => rw [hd] at h0; simpa using h0

end Chf
