/-
  The codec's package-level state.

  `Model/Ber.lean` describes Marshal / Unmarshal as FUNCTIONS of (type, parameters, argument).  The Go procedures are
  functions only as long as nothing they do depends on, or leaves behind, package-level state: an output buffer taken
  from a pool, a cache filled on first use, a counter.  This file says what the syntactic facts regenerated into
  `Gen/AsnGlobals.lean` (go/ast over cdr/asn and over the packages importing it) buy:

  * `GlobalVar.frozen` — nothing outside `init` assigns to the variable or a part of it, takes its address, and — unless it is
    an (immutable) reflect.Type handle — calls a method on it; a reference (map, slice, pointer …) is moreover never handed on;
  * a call of the codec is a step `G → In → Out × G` over the package-level store `G`; the bridge from syntax to semantics
    is `Respects`: a step leaves every frozen variable (and every name that is no variable) as it found it.  This is the
    trusted reading of Go's semantics, not proved here;
  * `history_independent`: if all variables are frozen, the answer of a call does not depend on the calls made before it,
    and the store is never changed (`store_unchanged`);
  * `schedule_independent`: the same for goroutines executing calls as sequences of atomic steps under an arbitrary
    scheduler: every goroutine computes what it computes when it runs alone, whatever the interleaving.
  * `unfrozen_counterexample…`: the hypotheses are needed — with one unfrozen variable there are steps that respect the facts
    and answer differently after a history (the pooled buffer, the cache).
-/
namespace Chf.CodecState

structure GlobalVar where
  name : String
  kind : Nat          -- 0 reflect.Type handle, 1 scalar / string, 2 reference (map, slice, pointer, chan, func), 3 other
  assigns : Nat
  addrTaken : Nat
  methodCalls : Nat
  escapes : Nat
  foreign : Nat
deriving DecidableEq, Repr

def GlobalVar.frozen (g : GlobalVar) : Bool :=
  g.assigns == 0 && g.addrTaken == 0 && g.foreign == 0 &&
  (g.kind == 0 || (g.methodCalls == 0 && (g.kind == 1 || g.escapes == 0)))

def allFrozen (vars : List GlobalVar) : Bool := vars.all GlobalVar.frozen

/-- the package-level store: the (abstract) value of every variable name -/
abbrev Store (V : Type) := String → V

/-- `x` is not a variable the calls may change: every declared variable of that name is frozen -/
def Untouchable (vars : List GlobalVar) (x : String) : Prop := ∀ v ∈ vars, v.name = x → v.frozen = true

/-- what the facts mean for a call of the codec: it leaves untouchable names alone -/
def Respects {V In Out : Type} (vars : List GlobalVar) (step : Store V → In → Out × Store V) : Prop :=
  ∀ g i x, Untouchable vars x → (step g i).2 x = g x

theorem untouchable_of_allFrozen {vars : List GlobalVar} (h : allFrozen vars = true) (x : String) : Untouchable vars x := by
  intro v hv _
  exact List.all_eq_true.mp h v hv

/-- a call leaves the store as it was -/
theorem store_unchanged {V In Out : Type} {vars : List GlobalVar} {step : Store V → In → Out × Store V}
    (hf : allFrozen vars = true) (hr : Respects vars step) (g : Store V) (i : In) : (step g i).2 = g :=
  funext fun x => hr g i x (untouchable_of_allFrozen hf x)

/-- the store after a history of calls -/
def after {V In Out : Type} (step : Store V → In → Out × Store V) (g : Store V) : List In → Store V
  | [] => g
  | i :: rest => after step (step g i).2 rest

theorem after_eq {V In Out : Type} {vars : List GlobalVar} {step : Store V → In → Out × Store V}
    (hf : allFrozen vars = true) (hr : Respects vars step) (g : Store V) : ∀ hist : List In, after step g hist = g
  | [] => rfl
  | i :: rest => by
    rw [after, store_unchanged hf hr g i]
    exact after_eq hf hr g rest

/-- the answers of a history of calls, in order -/
def answers {V In Out : Type} (step : Store V → In → Out × Store V) (g : Store V) : List In → List Out
  | [] => []
  | i :: rest => (step g i).1 :: answers step (step g i).2 rest

/-- History independence: with every package-level variable frozen, the answer to a call is the answer the call gets
    from the initial store, whatever was called before … -/
theorem history_independent {V In Out : Type} {vars : List GlobalVar} {step : Store V → In → Out × Store V}
    (hf : allFrozen vars = true) (hr : Respects vars step) (g : Store V) (hist : List In) (i : In) :
    (step (after step g hist) i).1 = (step g i).1 := by
  rw [after_eq hf hr g hist]

/-- … so a history answers item by item what the single calls answer (this is how the Lean driver answers an `H` line) -/
theorem answers_eq_map {V In Out : Type} {vars : List GlobalVar} {step : Store V → In → Out × Store V}
    (hf : allFrozen vars = true) (hr : Respects vars step) (g : Store V) :
    ∀ hist : List In, answers step g hist = hist.map (fun i => (step g i).1)
  | [] => rfl
  | i :: rest => by
    rw [answers, store_unchanged hf hr g i, answers_eq_map hf hr g rest]
    rfl

/-! ### goroutines -/

/-- one atomic step of a goroutine executing a call: it reads and may write the shared store and moves its local state -/
abbrev Micro (V L : Type) := Store V → L → L × Store V

def RespectsMicro {V L : Type} (vars : List GlobalVar) (micro : Micro V L) : Prop :=
  ∀ g l x, Untouchable vars x → (micro g l).2 x = g x

def setLocal {L : Type} (ls : Nat → L) (k : Nat) (l : L) : Nat → L := fun j => if j = k then l else ls j

/-- the scheduler picks, step by step, the goroutine that moves -/
def runSched {V L : Type} (micro : Micro V L) (g : Store V) (ls : Nat → L) : List Nat → (Nat → L) × Store V
  | [] => (ls, g)
  | k :: rest => runSched micro (micro g (ls k)).2 (setLocal ls k (micro g (ls k)).1) rest

/-- a goroutine running alone for `n` steps from store `g` (which its steps leave unchanged) -/
def runAlone {V L : Type} (micro : Micro V L) (g : Store V) (l : L) : Nat → L
  | 0 => l
  | n + 1 => runAlone micro g (micro g l).1 n

theorem runAlone_succ {V L : Type} (micro : Micro V L) (g : Store V) (l : L) (n : Nat) :
    runAlone micro g l (n + 1) = runAlone micro g (micro g l).1 n := rfl

/-- Schedule independence: with every package-level variable frozen, after any interleaving every goroutine is where it
    is after running alone for as many steps as the scheduler gave it, and the store is untouched: concurrent calls answer
    what the same calls answer one after the other. -/
theorem schedule_independent {V L : Type} {vars : List GlobalVar} {micro : Micro V L}
    (hf : allFrozen vars = true) (hr : RespectsMicro vars micro) (g : Store V) :
    ∀ (sched : List Nat) (ls : Nat → L),
      (runSched micro g ls sched).2 = g ∧
      ∀ k, (runSched micro g ls sched).1 k = runAlone micro g (ls k) (sched.count k)
  | [], ls => ⟨rfl, fun _ => rfl⟩
  | j :: rest, ls => by
    have hg : (micro g (ls j)).2 = g := store_unchanged hf hr g (ls j)
    have ih := schedule_independent hf hr g rest (setLocal ls j (micro g (ls j)).1)
    rw [runSched, hg]
    refine ⟨ih.1, fun k => ?_⟩
    rw [ih.2 k]
    by_cases hk : j = k
    · subst hk
      simp [setLocal, List.count_cons_self, runAlone_succ]
    · have hk' : ¬ k = j := fun h => hk h.symm
      simp [setLocal, hk, hk', List.count_cons_of_ne]

/-! ### the hypothesis is needed -/

/-- a variable the facts do not freeze: a pool / cache that a call writes (method call on a non-handle) -/
def pooled : GlobalVar := ⟨"encodeBufPool", 3, 0, 0, 2, 0, 0⟩

/-- a call that answers with what the previous call left in the pooled variable, and leaves its own argument there -/
def leakyStep : Store Nat → Nat → Nat × Store Nat :=
  fun g i => (g "encodeBufPool", fun x => if x = "encodeBufPool" then i else g x)

theorem leaky_respects : Respects [pooled] leakyStep := by
  intro g i x hx
  by_cases h : x = "encodeBufPool"
  · subst h
    have := hx pooled (by simp) rfl
    simp [pooled, GlobalVar.frozen] at this
  · simp [leakyStep, h]

/-- … and it is history dependent: the facts of `pooled` allow exactly the behaviour a frozen table excludes -/
theorem unfrozen_counterexample :
    allFrozen [pooled] = false ∧ Respects [pooled] leakyStep ∧
    (leakyStep (after leakyStep (fun _ => 0) [7]) 1).1 ≠ (leakyStep (fun _ => 0) 1).1 := by
  refine ⟨by decide, leaky_respects, ?_⟩
  simp [after, leakyStep]

end Chf.CodecState
